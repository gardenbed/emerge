import Emerge.Gen.LexerTmpl
import Emerge.Ref.LexerTmpl
/-
  The emitted lexer template reads as the models assume (regenerated from lexer.go.tmpl on every run).
-/
namespace Emerge.Inst.LexerTmpl
open Emerge

theorem body_New_eq : Gen.LexerTmpl.body_New = Ref.LexerTmpl.body_New := rfl
theorem body_NextToken_eq : Gen.LexerTmpl.body_NextToken = Ref.LexerTmpl.body_NextToken := rfl
theorem body_scanToken_eq : Gen.LexerTmpl.body_scanToken = Ref.LexerTmpl.body_scanToken := rfl
theorem body_evalToken_eq : Gen.LexerTmpl.body_evalToken = Ref.LexerTmpl.body_evalToken := rfl
theorem tmpl_evalDFA_eq : Gen.LexerTmpl.tmpl_evalDFA = Ref.LexerTmpl.tmpl_evalDFA := rfl
theorem tmpl_advanceDFA_eq : Gen.LexerTmpl.tmpl_advanceDFA = Ref.LexerTmpl.tmpl_advanceDFA := rfl

/-- the constants, the method bodies and the two table templates -/
theorem template_as_modelled :
    Gen.LexerTmpl.const_errorState = Ref.LexerTmpl.const_errorState ∧
    Gen.LexerTmpl.const_bufferSize = Ref.LexerTmpl.const_bufferSize ∧
    Gen.LexerTmpl.const_ERR = Ref.LexerTmpl.const_ERR ∧
    Gen.LexerTmpl.const_WS = Ref.LexerTmpl.const_WS ∧
    Gen.LexerTmpl.const_EOL = Ref.LexerTmpl.const_EOL ∧
    Gen.LexerTmpl.const_COMMENT = Ref.LexerTmpl.const_COMMENT ∧
    Gen.LexerTmpl.body_New = Ref.LexerTmpl.body_New ∧
    Gen.LexerTmpl.body_NextToken = Ref.LexerTmpl.body_NextToken ∧
    Gen.LexerTmpl.body_scanToken = Ref.LexerTmpl.body_scanToken ∧
    Gen.LexerTmpl.body_evalToken = Ref.LexerTmpl.body_evalToken ∧
    Gen.LexerTmpl.tmpl_evalDFA = Ref.LexerTmpl.tmpl_evalDFA ∧
    Gen.LexerTmpl.tmpl_advanceDFA = Ref.LexerTmpl.tmpl_advanceDFA :=
  ⟨rfl, rfl, rfl, rfl, rfl, rfl, body_New_eq, body_NextToken_eq, body_scanToken_eq, body_evalToken_eq, tmpl_evalDFA_eq,
   tmpl_advanceDFA_eq⟩

end Emerge.Inst.LexerTmpl
