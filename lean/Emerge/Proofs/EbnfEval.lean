import Emerge.Proofs.EbnfTable
/-
  The right-hand side of a rule as a tree, its EBNF meaning, and its evaluation by the semantic actions
  (actions 23–31 of `Ebnf.action`, children first, left to right, the symbol table threaded through).
  Main result: the alternatives the evaluation returns denote, in the least fixed point of ANY later
  well-formed table that extends the one reached, exactly the EBNF meaning of the tree.
-/
namespace Emerge.Props.C01
open Emerge Emerge.Ebnf

/-- a right-hand side -/
inductive Rhs where
  | term (a : String)          -- a terminal (string literal or token), action 31
  | nonterm (A : String)       -- a non-terminal, action 30
  | cat (l r : Rhs)            -- juxtaposition, action 23
  | alt (l r : Rhs)            -- `l | r`, action 28
  | altEmpty (l : Rhs)         -- `l |`, action 29
  | op (k : Kind) (x : Rhs)    -- `( x )`, `[ x ]`, `{ x }`, `{{ x }}`, actions 24–27
  deriving Repr

/-- the documented meaning, given the languages of the non-terminals -/
def denote (env : String → Lang) : Rhs → Lang
  | .term a => fun w => w = [a]
  | .nonterm A => env A
  | .cat l r => Lang.cat (denote env l) (denote env r)
  | .alt l r => Lang.union (denote env l) (denote env r)
  | .altEmpty l => Lang.union (denote env l) Lang.eps
  | .op k x => shapeLang k (denote env x)

/-- the semantic actions over the tree -/
def evalRhs (cfg : Cfg) (names : List (String × String)) : SymTab → Rhs → SymTab × Strings
  | t, .term a => (t, [[.t a]])
  | t, .nonterm A => (t, [[.nt A]])
  | t, .cat l r =>
    let r1 := evalRhs cfg names t l
    let r2 := evalRhs cfg names r1.1 r
    (r2.1, r1.2.flatMap fun α => r2.2.map fun β => α ++ β)
  | t, .alt l r =>
    let r1 := evalRhs cfg names t l
    let r2 := evalRhs cfg names r1.1 r
    (r2.1, r1.2 ++ r2.2)
  | t, .altEmpty l =>
    let r1 := evalRhs cfg names t l
    (r1.1, r1.2 ++ [[]])
  | t, .op k x =>
    let r1 := evalRhs cfg names t x
    let c := closureAction cfg names r1.1 r1.2 k
    (c.1, [[.nt c.2]])

/-- every name the operators of the tree synthesise is unused and not empty at the moment it is made -/
def FreshNames (cfg : Cfg) (names : List (String × String)) : SymTab → Rhs → Prop
  | _, .term _ => True
  | _, .nonterm _ => True
  | t, .cat l r => FreshNames cfg names t l ∧ FreshNames cfg names (evalRhs cfg names t l).1 r
  | t, .alt l r => FreshNames cfg names t l ∧ FreshNames cfg names (evalRhs cfg names t l).1 r
  | t, .altEmpty l => FreshNames cfg names t l
  | t, .op k x =>
    FreshNames cfg names t x ∧
    (mapStringToNonTerminal cfg names (evalRhs cfg names t x).1 (evalRhs cfg names t x).2 k.suffix).2 ∉
        (evalRhs cfg names t x).1.nonTerminals ∧
    (mapStringToNonTerminal cfg names (evalRhs cfg names t x).1 (evalRhs cfg names t x).2 k.suffix).2 ≠ ""

/-- a later table keeps the registered names and the memoised names -/
structure Ext (t t' : SymTab) : Prop where
  nts : ∀ x, x ∈ t.nonTerminals → x ∈ t'.nonTerminals
  memo : ∀ s e k, (s, e) ∈ t.memo → e.get k ≠ "" → ∃ e', (s, e') ∈ t'.memo ∧ e'.get k = e.get k

theorem Ext.refl (t : SymTab) : Ext t t := ⟨fun _ h => h, fun _ e _ h _ => ⟨e, h, rfl⟩⟩

theorem Ext.trans {a b c : SymTab} (h1 : Ext a b) (h2 : Ext b c) : Ext a c := by
  refine ⟨fun x hx => h2.nts x (h1.nts x hx), ?_⟩
  intro s e k hm hne
  obtain ⟨e', hm', hg⟩ := h1.memo s e k hm hne
  obtain ⟨e'', hm'', hg'⟩ := h2.memo s e' k hm' (by rw [hg]; exact hne)
  exact ⟨e'', hm'', hg'.trans hg⟩

/-- the memo table only grows under `getName`; the name returned is memoised under a key set-equal to the operand -/
theorem getName_ext (cfg : Cfg) (names : List (String × String)) (t : SymTab) (s : Strings) (k : Kind) :
    (∀ s' e k', (s', e) ∈ t.memo → e.get k' ≠ "" →
      ∃ e', (s', e') ∈ (getName cfg names t s k).1.memo ∧ e'.get k' = e.get k') ∧
    (∃ s' e', (s', e') ∈ (getName cfg names t s k).1.memo ∧ eqStrings s' s = true ∧
      e'.get k = (getName cfg names t s k).2) := by
  rcases getName_cases cfg names t s k with ⟨s0, e0, hm, hk, _, h⟩ | ⟨m1, s0, e0, m2, hmemo, hq, hz, h⟩
  · rw [h]
    exact ⟨fun s' e k' hm _ => ⟨e, hm, rfl⟩, s0, e0, hm, eqStrings_of_keyEq hk, rfl⟩
  · rw [h]
    dsimp only
    refine ⟨fun s' e k' hm hk' => ?_, s0, _, List.mem_append_right _ List.mem_cons_self, hq, MemoEntry.get_set_same ..⟩
    -- an old entry stays, or is the one that gets the name - which is of another kind
    obtain ⟨_, _, hold⟩ := mem_memo_replace hmemo (e0.set k (mapStringToNonTerminal cfg names t s k.suffix).2)
    rcases hold _ hm with h1 | h1
    · exact ⟨e, h1, rfl⟩
    · cases h1
      refine ⟨_, List.mem_append_right _ List.mem_cons_self, MemoEntry.get_set_other _ _ fun hkk => hk' ?_⟩
      rw [hkk]; exact hz

/-- an operator action only extends the table, and its result is memoised under a key set-equal to its operand -/
theorem closureAction_ext (cfg : Cfg) (names : List (String × String)) (t : SymTab) (s : Strings) (k : Kind) :
    Ext t (closureAction cfg names t s k).1 ∧
    ∃ s' e', (s', e') ∈ (closureAction cfg names t s k).1.memo ∧ eqStrings s' s = true ∧
      e'.get k = (closureAction cfg names t s k).2 := by
  obtain ⟨hname, hnts, hmemo⟩ := closureAction_table cfg names t s k
  obtain ⟨hkeep, s', e', hm, hq, hg⟩ := getName_ext cfg names t s k
  refine ⟨⟨fun x hx => (hnts x).mpr (Or.inl hx), ?_⟩, s', e', ?_, hq, ?_⟩
  · intro s0 e0 k0 hm0 hne
    rw [hmemo]; exact hkeep s0 e0 k0 hm0 hne
  · rw [hmemo]; exact hm
  · rw [hname]; exact hg

theorem getName_ne_empty (cfg : Cfg) (names : List (String × String)) (t : SymTab) (s : Strings) (k : Kind)
    (h : (mapStringToNonTerminal cfg names t s k.suffix).2 ≠ "") : (getName cfg names t s k).2 ≠ "" := by
  rcases getName_cases cfg names t s k with ⟨_, _, _, _, hne, h'⟩ | ⟨_, _, _, _, _, _, _, h'⟩ <;> rw [h']
  · exact hne
  · exact h

/-- `evalRhs_sound` with the languages compared as languages -/
theorem evalRhs_denote (cfg : Cfg) (names : List (String × String)) : ∀ (r : Rhs) (t : SymTab),
    TableOk t → FreshNames cfg names t r →
    TableOk (evalRhs cfg names t r).1 ∧ Ext t (evalRhs cfg names t r).1 ∧
    ∀ t'', TableOk t'' → Ext (evalRhs cfg names t r).1 t'' →
      langStrings (L t''.prods) (evalRhs cfg names t r).2 = denote (L t''.prods) r := by
  intro r
  induction r with
  | term a =>
    intro t ht _
    exact ⟨ht, Ext.refl t, fun t'' _ _ => (langStrings_singleton ..).trans (langString_t ..)⟩
  | nonterm A =>
    intro t ht _
    exact ⟨ht, Ext.refl t, fun t'' _ _ => (langStrings_singleton ..).trans (langString_nt ..)⟩
  | cat l r ihl ihr =>
    intro t ht hf
    obtain ⟨h1, e1, m1⟩ := ihl t ht hf.1
    obtain ⟨h2, e2, m2⟩ := ihr _ h1 hf.2
    refine ⟨h2, e1.trans e2, fun t'' ht'' hext => ?_⟩
    simp only [evalRhs, denote]
    rw [langStrings_juxtapose, m1 t'' ht'' (e2.trans hext), m2 t'' ht'' hext]
  | alt l r ihl ihr =>
    intro t ht hf
    obtain ⟨h1, e1, m1⟩ := ihl t ht hf.1
    obtain ⟨h2, e2, m2⟩ := ihr _ h1 hf.2
    refine ⟨h2, e1.trans e2, fun t'' ht'' hext => ?_⟩
    simp only [evalRhs, denote]
    rw [langStrings_append, m1 t'' ht'' (e2.trans hext), m2 t'' ht'' hext]
  | altEmpty l ihl =>
    intro t ht hf
    obtain ⟨h1, e1, m1⟩ := ihl t ht hf
    refine ⟨h1, e1, fun t'' ht'' hext => ?_⟩
    simp only [evalRhs, denote]
    rw [langStrings_append, langStrings_singleton, m1 t'' ht'' hext]
    rfl
  | op k x ihx =>
    intro t ht hf
    obtain ⟨h1, e1, m1⟩ := ihx t ht hf.1
    have h2 := h1.closure cfg names (evalRhs cfg names t x).2 k hf.2.1
    obtain ⟨e2, s', e', hm, hq, hg⟩ := closureAction_ext cfg names (evalRhs cfg names t x).1 (evalRhs cfg names t x).2 k
    refine ⟨h2, e1.trans e2, fun t'' ht'' hext => ?_⟩
    simp only [evalRhs, denote]
    have hne : e'.get k ≠ "" := by
      rw [hg, (closureAction_table cfg names _ _ k).1]
      exact getName_ne_empty cfg names _ _ k hf.2.2
    -- the name is still memoised, with its operator's productions, in the later table
    obtain ⟨e'', hm'', hg''⟩ := hext.memo s' e' k hm hne
    rw [langStrings_singleton, langString_nt, ← hg, ← hg'',
      lang_operator t''.prods k (e''.get k) s' (ht''.shape s' e'' hm'' k (by rw [hg'']; exact hne)).2,
      langStrings_congr _ (eqStrings_iff.mp hq), m1 t'' ht'' (e2.trans hext)]

/-- **The actions compute the EBNF meaning.** Evaluating a right-hand side from a well-formed table (every synthesised
    name being unused when it is made) leaves a well-formed table that extends it, and the alternatives returned
    denote - in the least fixed point of ANY well-formed table that extends the one reached, in particular the final
    table of the specification - exactly the documented meaning of the right-hand side: juxtaposition is concatenation,
    `|` union, a trailing `|` adds the empty string, `( )` groups, `[ ]` adds the empty string, `{ }` is zero or more and
    `{{ }}` one or more repetitions. -/
theorem evalRhs_sound (cfg : Cfg) (names : List (String × String)) : ∀ (r : Rhs) (t : SymTab),
    TableOk t → FreshNames cfg names t r →
    TableOk (evalRhs cfg names t r).1 ∧ Ext t (evalRhs cfg names t r).1 ∧
    ∀ t'', TableOk t'' → Ext (evalRhs cfg names t r).1 t'' →
      ∀ w, langStrings (L t''.prods) (evalRhs cfg names t r).2 w ↔ denote (L t''.prods) r w := by
  intro r t ht hf
  obtain ⟨h1, e1, m1⟩ := evalRhs_denote cfg names r t ht hf
  exact ⟨h1, e1, fun t'' ht'' hext w => iff_of_eq (congrFun (m1 t'' ht'' hext) w)⟩

/-! ### the evaluation is what the semantic actions do, production by production -/

section actions
variable (cfg : Cfg) (file : String) (names predefs : List (String × String)) (t : SymTab) (p0 p1 p2 : Option Pos) (x y : Val)

theorem action_term (a : String) :
    action cfg file names predefs t 31 [⟨.term a, p0⟩] = .ok (t, .strings [[.t a]]) := rfl
theorem action_nonterm (A : String) :
    action cfg file names predefs t 30 [⟨.nonterm A, p0⟩] = .ok (t, .strings [[.nt A]]) := rfl
theorem action_cat (s1 s2 : Strings) :
    action cfg file names predefs t 23 [⟨.strings s1, p0⟩, ⟨.strings s2, p1⟩] =
      .ok (t, .strings (s1.flatMap fun α => s2.map fun β => α ++ β)) := rfl
theorem action_alt (s1 s2 : Strings) :
    action cfg file names predefs t 28 [⟨.strings s1, p0⟩, ⟨x, p1⟩, ⟨.strings s2, p2⟩] = .ok (t, .strings (s1 ++ s2)) := rfl
theorem action_altEmpty (s1 : Strings) :
    action cfg file names predefs t 29 [⟨.strings s1, p0⟩, ⟨x, p1⟩] = .ok (t, .strings (s1 ++ [[]])) := rfl
theorem action_group (s : Strings) :
    action cfg file names predefs t 24 [⟨x, p0⟩, ⟨.strings s, p1⟩, ⟨y, p2⟩] =
      .ok ((closureAction cfg names t s .group).1, .strings [[.nt (closureAction cfg names t s .group).2]]) := rfl
theorem action_opt (s : Strings) :
    action cfg file names predefs t 25 [⟨x, p0⟩, ⟨.strings s, p1⟩, ⟨y, p2⟩] =
      .ok ((closureAction cfg names t s .opt).1, .strings [[.nt (closureAction cfg names t s .opt).2]]) := rfl
theorem action_star (s : Strings) :
    action cfg file names predefs t 26 [⟨x, p0⟩, ⟨.strings s, p1⟩, ⟨y, p2⟩] =
      .ok ((closureAction cfg names t s .star).1, .strings [[.nt (closureAction cfg names t s .star).2]]) := rfl
theorem action_plus (s : Strings) :
    action cfg file names predefs t 27 [⟨x, p0⟩, ⟨.strings s, p1⟩, ⟨y, p2⟩] =
      .ok ((closureAction cfg names t s .plus).1, .strings [[.nt (closureAction cfg names t s .plus).2]]) := rfl
theorem action_rule (A : String) (s : Strings) :
    action cfg file names predefs t 20 [⟨.nonterm A, p0⟩, ⟨x, p1⟩, ⟨.strings s, p2⟩] =
      .ok ((s.map fun α => (⟨A, α⟩ : GProd)).foldl addProduction t, .prods (s.map fun α => (⟨A, α⟩ : GProd))) := rfl

end actions

/-! ### a rule: its productions and its language -/

/-- **The language of a rule's name is the union of the meanings of its right-hand sides** - in any production list in
    which the bodies of `A` are exactly the alternatives the actions computed for `A`'s rules, and those alternatives
    denote the meanings (which `evalRhs_sound` provides for the final table). -/
theorem rule_lang (P : List GProd) (A : String) (rules : List (Rhs × Strings))
    (hmean : ∀ rs, rs ∈ rules → ∀ w, langStrings (L P) rs.2 w ↔ denote (L P) rs.1 w)
    (hprods : ∀ α, ⟨A, α⟩ ∈ P ↔ ∃ rs, rs ∈ rules ∧ α ∈ rs.2) (w : List String) :
    L P A w ↔ ∃ rs, rs ∈ rules ∧ denote (L P) rs.1 w := by
  rw [L_fix]
  constructor
  · rintro ⟨α, hα, hw⟩
    obtain ⟨rs, hrs, hin⟩ := (hprods α).mp (mem_alts.mp hα)
    exact ⟨rs, hrs, (hmean rs hrs w).mp ⟨α, hin, hw⟩⟩
  · rintro ⟨rs, hrs, hw⟩
    obtain ⟨α, hin, hα⟩ := (hmean rs hrs w).mpr hw
    exact ⟨α, mem_alts.mpr ((hprods α).mpr ⟨rs, hrs, hin⟩), hα⟩

/-- adding the productions of a rule keeps the table well-formed and only extends it -/
theorem TableOk.addRules {t : SymTab} (h : TableOk t) (A : String) (hA : A ∈ t.nonTerminals)
    (hclash : ∀ s e, (s, e) ∈ t.memo → ∀ k, e.get k ≠ A) (s : Strings) :
    TableOk ((s.map fun α => (⟨A, α⟩ : GProd)).foldl addProduction t) ∧
    Ext t ((s.map fun α => (⟨A, α⟩ : GProd)).foldl addProduction t) ∧
    (∀ q, q ∈ ((s.map fun α => (⟨A, α⟩ : GProd)).foldl addProduction t).prods ↔ q ∈ t.prods ∨ ∃ α ∈ s, q = ⟨A, α⟩) := by
  refine ⟨h.addProductions _ fun p hp => ?_, ?_, fun q => ?_⟩
  · obtain ⟨α, _, rfl⟩ := List.mem_map.mp hp
    exact ⟨hA, hclash⟩
  · rw [foldl_addProduction_frame]
    exact ⟨fun _ hx => hx, fun _ e _ hm _ => ⟨e, hm, rfl⟩⟩
  · simp only [mem_foldl_addProduction, List.mem_map, @eq_comm _ q]

end Emerge.Props.C01
