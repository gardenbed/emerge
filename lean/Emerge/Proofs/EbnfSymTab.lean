import Emerge.Ebnf
import Emerge.Proofs.ListAux
/-
  The operations on the symbol table, each characterised once.  `op_frame` says which fields `op` can
  change, in the form `op t = { t with f := (op t).f }`: that any other field is untouched is then
  `by rw [op_frame]`.  `Effect` is the repertoire of these operations, and
  `action_effect` says that a successful semantic action applies one of them.
-/
namespace Emerge.Ebnf


theorem addProduction_frame (t : SymTab) (p : GProd) : addProduction t p = { t with prods := (addProduction t p).prods } := by
  unfold addProduction; split <;> rfl

theorem mem_addProduction (t : SymTab) (p q : GProd) : q ∈ (addProduction t p).prods ↔ q ∈ t.prods ∨ q = p := by
  unfold addProduction
  rw [apply_ite SymTab.prods]
  exact mem_addNew t.prods p q

theorem foldl_addProduction_frame (ps : List GProd) (t : SymTab) :
    ps.foldl addProduction t = { t with prods := (ps.foldl addProduction t).prods } := by
  induction ps generalizing t with
  | nil => rfl
  | cons p ps ih =>
    exact (ih _).trans (congrArg (fun u : SymTab => { u with prods := ((p :: ps).foldl addProduction t).prods })
      (addProduction_frame t p))

theorem mem_foldl_addProduction (ps : List GProd) (t : SymTab) (q : GProd) :
    q ∈ (ps.foldl addProduction t).prods ↔ q ∈ t.prods ∨ q ∈ ps := by
  induction ps generalizing t with
  | nil => simp only [List.foldl_nil, List.not_mem_nil, or_false]
  | cons p ps ih => rw [List.foldl_cons, ih, mem_addProduction, List.mem_cons, or_assoc]

theorem addNonTerminal_frame (t : SymTab) (A : String) :
    addNonTerminal t A = { t with nonTerminals := (addNonTerminal t A).nonTerminals } := by
  unfold addNonTerminal; split <;> rfl

theorem mem_addNonTerminal (t : SymTab) (A x : String) : x ∈ (addNonTerminal t A).nonTerminals ↔ x ∈ t.nonTerminals ∨ x = A := by
  unfold addNonTerminal
  rw [apply_ite SymTab.nonTerminals]
  exact mem_addNew t.nonTerminals A x

theorem eqStrings_iff {a b : Strings} : eqStrings a b = true ↔ ∀ x, x ∈ a ↔ x ∈ b := by
  simp only [eqStrings, Bool.and_eq_true, List.all_eq_true, stringsContains, List.any_eq_true, beq_iff_eq, exists_eq_right]
  exact ⟨fun h x => ⟨h.1 x, h.2 x⟩, fun h => ⟨fun x => (h x).mp, fun x => (h x).mpr⟩⟩

theorem eqStrings_refl (a : Strings) : eqStrings a a = true := eqStrings_iff.mpr fun _ => Iff.rfl

theorem eqStrings_symm {a b : Strings} (h : eqStrings a b = true) : eqStrings b a = true :=
  eqStrings_iff.mpr fun x => (eqStrings_iff.mp h x).symm

theorem eqStrings_trans {a b c : Strings} (h1 : eqStrings a b = true) (h2 : eqStrings b c = true) : eqStrings a c = true :=
  eqStrings_iff.mpr fun x => (eqStrings_iff.mp h1 x).trans (eqStrings_iff.mp h2 x)

theorem eqStrings_of_keyEq {s1 s2 : Strings} (h : keyEq s1 s2 = true) : eqStrings s1 s2 = true := by
  simp only [keyEq, Bool.and_eq_true] at h
  exact h.2

theorem MemoEntry.get_set_same (e : MemoEntry) (k : Kind) (n : String) : (e.set k n).get k = n := by
  cases k <;> rfl

theorem MemoEntry.get_set_other (e : MemoEntry) {k k' : Kind} (n : String) (h : k' ≠ k) : (e.set k n).get k' = e.get k' := by
  cases k <;> cases k' <;> first | rfl | exact absurd rfl h

theorem MemoEntry.get_default (k : Kind) : ({} : MemoEntry).get k = "" := by cases k <;> rfl

/-- `updateMemo` puts the name into the first entry whose key matches, or into a new entry at the end. -/
theorem updateMemo_split (m : List (Strings × MemoEntry)) (s : Strings) (k : Kind) (n : String) :
    ∃ m1 s0 e0 m2, updateMemo m s k n = m1 ++ (s0, e0.set k n) :: m2 ∧
      ((m.find? (fun x => keyEq x.1 s) = some (s0, e0) ∧ m = m1 ++ (s0, e0) :: m2) ∨
       (m.find? (fun x => keyEq x.1 s) = none ∧ m = m1 ∧ m2 = [] ∧ s0 = s ∧ e0 = {})) := by
  induction m with
  | nil => exact ⟨[], s, {}, [], rfl, Or.inr ⟨rfl, rfl, rfl, rfl, rfl⟩⟩
  | cons x m ih =>
    obtain ⟨s', e⟩ := x
    by_cases hk : keyEq s' s = true
    · exact ⟨[], s', e, m, by simp only [updateMemo, hk, if_true, List.nil_append],
        Or.inl ⟨by simp only [List.find?_cons, hk], rfl⟩⟩
    · obtain ⟨m1, s0, e0, m2, hu, hc⟩ := ih
      refine ⟨(s', e) :: m1, s0, e0, m2, by simp only [updateMemo, hk, Bool.false_eq_true, if_false, hu, List.cons_append], ?_⟩
      simp only [List.find?_cons, hk, List.cons_append, List.cons.injEq, true_and]
      exact hc

/-- membership before and after one entry of a memo table is replaced - or, for a new key, added at the end -/
theorem mem_memo_replace {memo m1 m2 : List (Strings × MemoEntry)} {s0 : Strings} {e0 : MemoEntry}
    (h : memo = m1 ++ (s0, e0) :: m2 ∨ (memo = m1 ∧ m2 = [] ∧ e0 = {})) (e1 : MemoEntry) :
    ((s0, e0) ∈ memo ∨ e0 = {}) ∧ (∀ x, x ∈ m1 ++ (s0, e1) :: m2 → x ∈ memo ∨ x = (s0, e1)) ∧
    (∀ x, x ∈ memo → x ∈ m1 ++ (s0, e1) :: m2 ∨ x = (s0, e0)) := by
  rcases h with rfl | ⟨rfl, rfl, rfl⟩ <;> simp only [List.mem_append, List.mem_cons, List.not_mem_nil, or_false]
  · refine ⟨.inl (.inr (.inl trivial)), fun x hx => ?_, fun x hx => ?_⟩ <;> rcases hx with h | h | h
    · exact .inl (.inl h)
    · exact .inr h
    · exact .inl (.inr (.inr h))
    · exact .inl (.inl h)
    · exact .inr h
    · exact .inl (.inr (.inr h))
  · exact ⟨.inr trivial, fun x hx => hx, fun x hx => .inl (.inl hx)⟩
theorem mapStringToNonTerminal_frame (cfg : Cfg) (names : List (String × String)) (t : SymTab) (s : Strings) (suffix : String) :
    (mapStringToNonTerminal cfg names t s suffix).1 =
      { t with counter := (mapStringToNonTerminal cfg names t s suffix).1.counter } := by
  generalize h : mapStringToNonTerminal cfg names t s suffix = r
  unfold mapStringToNonTerminal at h
  extract_lets base cand at h
  split at h <;> subst h <;> rfl

/-- **`getName`**: a memoised name, or the new name recorded under a key set-equal to the operand - in the first
    entry with an equal key (which has no name of this kind yet) or in a new entry at the end. -/
theorem getName_cases (cfg : Cfg) (names : List (String × String)) (t : SymTab) (s : Strings) (k : Kind) :
    (∃ s0 e0, (s0, e0) ∈ t.memo ∧ keyEq s0 s = true ∧ e0.get k ≠ "" ∧ getName cfg names t s k = (t, e0.get k)) ∨
    (∃ m1 s0 e0 m2, (t.memo = m1 ++ (s0, e0) :: m2 ∨ (t.memo = m1 ∧ m2 = [] ∧ e0 = {})) ∧
      eqStrings s0 s = true ∧ e0.get k = "" ∧
      getName cfg names t s k =
        ({ t with counter := (mapStringToNonTerminal cfg names t s k.suffix).1.counter,
                  memo := m1 ++ (s0, e0.set k (mapStringToNonTerminal cfg names t s k.suffix).2) :: m2 },
         (mapStringToNonTerminal cfg names t s k.suffix).2)) := by
  have hm := mapStringToNonTerminal_frame cfg names t s k.suffix
  unfold getName
  generalize mapStringToNonTerminal cfg names t s k.suffix = r at hm
  obtain ⟨t1, n⟩ := r
  dsimp only at hm ⊢
  obtain ⟨m1, s0, e0, m2, hu, hc⟩ := updateMemo_split t.memo s k n
  split
  · rename_i s' e hfind
    have hkey : keyEq s' s = true := by simpa using List.find?_some hfind
    split
    · rename_i hne
      exact Or.inl ⟨s', e, List.mem_of_find?_eq_some hfind, hkey, by simpa using hne, rfl⟩
    · rename_i hne
      rcases hc with ⟨hf, hsplit⟩ | ⟨hf, _⟩
      · obtain ⟨rfl, rfl⟩ : s' = s0 ∧ e = e0 := by simpa [hfind] using hf
        refine Or.inr ⟨m1, s', e, m2, Or.inl hsplit, eqStrings_of_keyEq hkey, by simpa using hne, ?_⟩
        rw [hm, hu]
      · rw [hfind] at hf; cases hf
  · rename_i hfind
    rcases hc with ⟨hf, _⟩ | ⟨_, rfl, rfl, rfl, rfl⟩
    · rw [hfind] at hf; cases hf
    · refine Or.inr ⟨t.memo, s0, {}, [], Or.inr ⟨rfl, rfl, rfl⟩, eqStrings_refl s0, MemoEntry.get_default k, ?_⟩
      rw [hm]

theorem getName_frame (cfg : Cfg) (names : List (String × String)) (t : SymTab) (s : Strings) (k : Kind) :
    (getName cfg names t s k).1 =
      { t with counter := (getName cfg names t s k).1.counter, memo := (getName cfg names t s k).1.memo } := by
  rcases getName_cases cfg names t s k with ⟨_, _, _, _, _, h⟩ | ⟨_, _, _, _, _, _, _, h⟩ <;> rw [h]

/-- the bodies an operator of kind `k` gives its non-terminal `n` for the operand `s`, in the order they are added -/
def shapeBodies (k : Kind) (n : String) (s : Strings) : Strings :=
  match k with
  | .plus => s.flatMap fun α => [prepend n α, α]
  | .star => s.map (prepend n) ++ [[]]
  | .opt => s ++ [[]]
  | .group => s

/-- An operator action is: look the name up or make it (`getName`), register it, add the productions of the shape. -/
theorem closureAction_eq (cfg : Cfg) (names : List (String × String)) (t : SymTab) (s : Strings) (k : Kind) :
    closureAction cfg names t s k =
      (((shapeBodies k (getName cfg names t s k).2 s).map (GProd.mk (getName cfg names t s k).2)).foldl addProduction
        (addNonTerminal (getName cfg names t s k).1 (getName cfg names t s k).2), (getName cfg names t s k).2) := by
  unfold closureAction
  cases k <;>
    simp only [shapeBodies, List.map_flatMap, List.map_append, List.map_map, List.map_cons, List.map_nil,
      List.foldl_flatMap, List.foldl_append, List.foldl_map, List.foldl_cons, List.foldl_nil, Function.comp_apply]

theorem closureAction_frame (cfg : Cfg) (names : List (String × String)) (t : SymTab) (s : Strings) (k : Kind) :
    (closureAction cfg names t s k).1 =
      { t with counter := (closureAction cfg names t s k).1.counter, memo := (closureAction cfg names t s k).1.memo,
               nonTerminals := (closureAction cfg names t s k).1.nonTerminals,
               prods := (closureAction cfg names t s k).1.prods } := by
  rw [closureAction_eq]
  dsimp only
  rw [foldl_addProduction_frame, addNonTerminal_frame, getName_frame]

theorem addDef_frame (t : SymTab) (a : String) (d : TermDef) : addDef t a d = { t with terminals := (addDef t a d).terminals } := by
  unfold addDef; split <;> rfl

theorem addStringTerminal_frame (t : SymTab) (key text : String) :
    addStringTerminal t key text = { t with terminals := (addStringTerminal t key text).terminals } := by
  unfold addStringTerminal; split <;> rfl

theorem addTokenTerminal_frame (t : SymTab) (a : String) :
    addTokenTerminal t a = { t with terminals := (addTokenTerminal t a).terminals } := by
  unfold addTokenTerminal; split <;> rfl

/-- The operations a semantic action applies to the table - other than recording a precedence level. -/
inductive Effect (cfg : Cfg) (names : List (String × String)) (t : SymTab) : SymTab → Prop
  | unchanged : Effect cfg names t t
  | stringTerminal (key text : String) : Effect cfg names t (addStringTerminal t key text)
  | tokenTerminal (a : String) : Effect cfg names t (addTokenTerminal t a)
  | define (a : String) (d : TermDef) : Effect cfg names t (addDef t a d)
  | nonTerminal (A : String) : Effect cfg names t (addNonTerminal t A)
  | closure (s : Strings) (k : Kind) : Effect cfg names t (closureAction cfg names t s k).1
  | productions (ps : List GProd) : Effect cfg names t (ps.foldl addProduction t)
  | error (e : String) : Effect cfg names t { t with errs := t.errs ++ [e] }

/-- **What a successful action does to the table**: a directive (productions 12-14) appends a level; every other
    action applies one of the operations of `Effect`.  Production by production; a branch that ends in an error or
    a panic contradicts `h`. -/
theorem action_effect {cfg : Cfg} {file : String} {names predefs : List (String × String)} {t t' : SymTab} {i : Nat}
    {rhs : List PVal} {v : Val} (h : action cfg file names predefs t i rhs = .ok (t', v)) :
    Effect cfg names t t' ∨ ((i = 12 ∨ i = 13 ∨ i = 14) ∧ ∃ l, t' = { t with levels := t.levels ++ [l] }) := by
  unfold action at h
  dsimp only at h
  split at h
  -- 34, 33, 32: a string literal, a token, a non-terminal in a rule
  · split at h <;> cases h
    exact .inl (.stringTerminal _ _)
  · split at h <;> cases h
    exact .inl (.tokenTerminal _)
  · split at h <;> cases h
    exact .inl (.nonTerminal _)
  -- 31-28: atoms and alternation only compute a value
  iterate 4
    · split at h <;> cases h
      exact .inl .unchanged
  -- 27-24: the operators
  iterate 4
    · split at h <;> cases h
      exact .inl (.closure _ _)
  -- 23, 22: juxtaposition, a value passed on
  iterate 2
    · split at h <;> cases h
      exact .inl .unchanged
  -- 21, 20: a rule
  · split at h <;> cases h
    exact .inl (.productions [_])
  · split at h <;> cases h
    exact .inl (.productions _)
  -- 19-15: handles are values
  iterate 5
    · split at h <;> cases h
      exact .inl .unchanged
  -- 14, 13, 12: the directives
  iterate 3
    · split at h
      · unfold levelAction at h
        split at h <;> cases h
        exact .inr ⟨by decide, _, rfl⟩
      · cases h
  -- 11, 10, 9: token definitions
  · split at h
    · split at h <;> cases h
      · exact .inl (.error _)
      · exact .inl (.define _ _)
    · cases h
  iterate 2
    · split at h <;> cases h
      exact .inl (.define _ _)
  -- 8-2: lists
  iterate 7
    · cases h
      exact .inl .unchanged
  -- 1, 0: the name; the final action hands the table on if no checker objects
  · split at h <;> cases h
    exact .inl .unchanged
  · split at h
    · cases h
    · split at h
      · cases h
      · split at h <;> cases h
        exact .inl .unchanged
  · cases h

end Emerge.Ebnf
