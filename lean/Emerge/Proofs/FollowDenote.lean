import Emerge.Proofs.FollowBase
/-
  The tree the second mapper set builds for a pattern (`ofPat`) has the documented language of the pattern, NUL aside
  (the direct route treats NUL as an ordinary character; the documented alphabet excludes it).
  Core Lean only.
-/
namespace Emerge.Props.C10
open Emerge Emerge.Regex Emerge.Regex.Follow

theorem langConcat_eq (xs : List Node) : langConcat xs = Lang.catList (xs.map Node.lang) := by
  induction xs with
  | nil => rfl
  | cons x xs ih => exact congrArg (Lang.cat (Node.lang x)) ih

/-- the option `quantifyNode` builds -/
theorem lang_opt (n : Node) : Node.lang (.alt [.empty, n]) = Lang.union Lang.eps (Node.lang n) :=
  congrArg (Lang.union Lang.eps) (Lang.union_empty _)

theorem quantNode_lang (n : Node) (q : Quant) : Node.lang (quantNode n q) = Lang.quant (Node.lang n) q := by
  rcases q with _ | _ | _ | ⟨lo, _ | u⟩
  · exact lang_opt n
  · rfl
  · exact congrArg (Lang.cat _) (Lang.cat_eps_right _)
  · simp only [quantNode, Node.lang, langConcat_eq, List.map_append, List.map_replicate]
    exact Lang.catList_rep_star _ lo
  · rw [quantNode, Node.lang, langConcat_eq, List.map_append, List.map_replicate, List.map_replicate, lang_opt]
    exact Lang.catList_rep_upto _ lo u

/-- **Quantified sub-expressions**: the tree `quantifyNode` builds — clones for `{n}`, options for
    `{n,m}`, a star for `{n,}`, `ε | x` for `?`, `x x*` for `+` — has the documented language of the
    quantifier applied to the operand's language (so patterns that duplicate a sub-expression, and
    ones that match the empty string such as `a{0}`, are represented correctly). -/
theorem quantify_lang (n : Node) (q : Quant) :
    Node.lang (quantNode n q) ≃
      (match q with
       | .opt => Lang.union Lang.eps (Node.lang n)
       | .star => Lang.star (Node.lang n)
       | .plus => Lang.cat (Node.lang n) (Lang.star (Node.lang n))
       | .rep lo none => Lang.cat (Lang.pow (Node.lang n) lo) (Lang.star (Node.lang n))
       | .rep lo (some u) => Lang.cat (Lang.pow (Node.lang n) lo) (Lang.upto (Node.lang n) (u - lo))) := by
  rcases q with _ | _ | _ | ⟨lo, _ | u⟩ <;> exact .of_eq (quantNode_lang n _)

def NoNul (w : List Rune) : Prop := ∀ c ∈ w, c ≠ 0

/-- the words of a language that do not contain NUL -/
def nn (a : Lang) : Lang := fun w => a w ∧ NoNul w

theorem noNul_nil : NoNul [] := nofun

theorem noNul_append {u v : List Rune} : NoNul (u ++ v) ↔ NoNul u ∧ NoNul v := List.forall_mem_append

theorem nn_eps : nn Lang.eps = Lang.eps :=
  Lang.ext fun _ => ⟨And.left, fun h => ⟨h, h ▸ noNul_nil⟩⟩

theorem nn_empty : nn Lang.empty = Lang.empty := Lang.ext fun _ => ⟨And.left, False.elim⟩

theorem nn_set (rs : List Rune) : nn (Lang.set rs) = Lang.set (noNul rs) := by
  refine Lang.ext fun w => ⟨?_, ?_⟩
  · rintro ⟨⟨r, hr, rfl⟩, hn⟩
    exact ⟨r, mem_noNul.mpr ⟨hr, hn r (List.mem_singleton_self r)⟩, rfl⟩
  · rintro ⟨r, hr, rfl⟩
    obtain ⟨hr, h0⟩ := mem_noNul.mp hr
    exact ⟨⟨r, hr, rfl⟩, fun c hc => List.mem_singleton.mp hc ▸ h0⟩

theorem nn_union (a b : Lang) : nn (Lang.union a b) = Lang.union (nn a) (nn b) :=
  Lang.ext fun _ => or_and_right

theorem nn_cat (a b : Lang) : nn (Lang.cat a b) = Lang.cat (nn a) (nn b) := by
  refine Lang.ext fun w => ⟨?_, ?_⟩
  · rintro ⟨⟨u, v, rfl, hu, hv⟩, hn⟩
    obtain ⟨h1, h2⟩ := noNul_append.mp hn
    exact ⟨u, v, rfl, ⟨hu, h1⟩, ⟨hv, h2⟩⟩
  · rintro ⟨u, v, rfl, ⟨hu, h1⟩, ⟨hv, h2⟩⟩
    exact ⟨⟨u, v, rfl, hu, hv⟩, noNul_append.mpr ⟨h1, h2⟩⟩

theorem nn_star (a : Lang) : nn (Lang.star a) = Lang.star (nn a) := by
  refine Lang.ext fun w => ⟨?_, ?_⟩
  · rintro ⟨hs, hn⟩
    induction hs with
    | nil => exact .nil
    | app u v hu _ ih =>
      obtain ⟨h1, h2⟩ := noNul_append.mp hn
      exact .app u v ⟨hu, h1⟩ (ih h2)
  · intro hs
    induction hs with
    | nil => exact ⟨.nil, noNul_nil⟩
    | app u v hu _ ih => exact ⟨.app u v hu.1 ih.1, noNul_append.mpr ⟨hu.2, ih.2⟩⟩

theorem nn_pow (a : Lang) (n : Nat) : nn (Lang.pow a n) = Lang.pow (nn a) n := by
  induction n with
  | zero => exact nn_eps
  | succ n ih => exact (nn_cat _ _).trans (congrArg (Lang.cat (nn a)) ih)

theorem nn_upto (a : Lang) (n : Nat) : nn (Lang.upto a n) = Lang.upto (nn a) n := by
  rw [Lang.upto_eq_pow, nn_pow, nn_union, nn_eps, Lang.upto_eq_pow]

theorem nn_quant (a : Lang) (q : Quant) : nn (Lang.quant a q) = Lang.quant (nn a) q := by
  rcases q with _ | _ | _ | ⟨lo, _ | u⟩ <;> simp only [Lang.quant, nn_union, nn_eps, nn_star, nn_cat, nn_pow, nn_upto]

theorem charsAlt_eq (rs : List Rune) : Node.lang (charsAlt rs) = Lang.set rs := by
  induction rs with
  | nil => exact Lang.set_nil.symm
  | cons r rs ih => rw [Lang.set_cons, ← ih]; rfl

theorem charsAlt_lang (rs : List Rune) : Node.lang (charsAlt rs) ≃ Lang.set rs := .of_eq (charsAlt_eq rs)

theorem quant_step (n : Node) (r : Re) (h : nn (Node.lang n) ≃ r.lang) (q : Quant) :
    nn (Node.lang (quantNode n q)) ≃ (quantRe r q).lang :=
  .of_eq (by rw [quantNode_lang, nn_quant, Lang.ext h, quantRe_lang])

theorem nn_charsAlt (rs : List Rune) : nn (Node.lang (charsAlt rs)) = Lang.set (noNul rs) := by
  rw [charsAlt_eq, nn_set]

/-- an item list is read the same way as a tree and as a list of operands -/
theorem ofPat_of_isSpine (T : ClassTable) {p : Pat} (h : isSpine p = true) :
    Node.lang (ofPat T p) = langConcat (ofSpine T p) := by
  cases p with
  | snil | scons => rfl
  | _ => cases h

theorem ofPat_denote (T : ClassTable) (hT : AsciiOk T) (p : Pat) (hs : spined p = true) :
    nn (Node.lang (ofPat T p)) = p.denote T := by
  induction p with
  | any => exact nn_charsAlt _
  | char c => exact nn_set [c]
  | cls neg rs =>
    cases neg with
    | false => exact nn_charsAlt rs
    | true => exact (nn_charsAlt _).trans (congrArg Lang.set (noNul_filter _ _))
  | group neg items => exact (nn_charsAlt _).trans (Lang.set_congr (groupRunes_mem T hT neg items))
  | quant p q lz ih => simp only [ofPat, quantNode_lang, nn_quant, ih hs, Pat.denote_quant]
  | snil => exact nn_eps
  | scons a r iha ihr =>
    simp only [spined, Bool.and_eq_true] at hs
    show nn (Lang.cat (Node.lang (ofPat T a)) (langConcat (ofSpine T r))) = _
    rw [← ofPat_of_isSpine T hs.2, nn_cat, iha hs.1.1, ihr hs.1.2]
    rfl
  | alt a b iha ihb =>
    simp only [spined, Bool.and_eq_true] at hs
    show nn (Lang.union (Node.lang (ofPat T a)) (Lang.union (Node.lang (ofPat T b)) Lang.empty)) = _
    rw [Lang.union_empty, nn_union, iha hs.1, ihb hs.2]
    rfl

/-- **The tree of a pattern has the pattern's documented language** (strings without NUL), and so has the item list of
    a sub-expression. -/
theorem ofPat_lang (T : ClassTable) (hT : AsciiOk T) (p : Pat) :
    (spined p = true → nn (Node.lang (ofPat T p)) ≃ p.denote T) ∧
    (spined p = true → isSpine p = true → nn (langConcat (ofSpine T p)) ≃ p.denote T) :=
  ⟨fun hs => .of_eq (ofPat_denote T hT p hs),
   fun hs hsp => .of_eq (by rw [← ofPat_of_isSpine T hsp]; exact ofPat_denote T hT p hs)⟩

end Emerge.Props.C10
