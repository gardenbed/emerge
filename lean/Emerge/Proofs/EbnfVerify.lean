import Emerge.Proofs.EbnfSymTab
/-
  What the four checkers of the final action of `spec.Parse` decide, stated over the symbol table:
  `SymbolTable.Verify` (`ensureSingleDefs`, `ensureDistinctDefs`, `ensureStart`), the pending
  "invalid predefined regex" errors, `CFG.Verify` and `PrecedenceLevels.Verify`.

  * `TermsNodup`: one entry per terminal name — an invariant of the table under every action;
  * each checker is empty exactly when the defect it looks for is absent, and every line it prints
    names a defect that is present;
  * `WellFormed`: the conjunction (`checkers_nil_iff`), and `Defect`: what a line names (`Defect.of_checker`).
  Core Lean only.
-/
namespace Emerge.Props.C07
open Emerge Emerge.Ebnf

/-! ### one entry per terminal name -/

def TermsNodup (t : SymTab) : Prop := (t.terminals.map (·.name)).Nodup

/-- The three operations on terminals have one shape: if the name is in the table the names stay as they are, otherwise
    one entry with that name is appended. -/
theorem TermsNodup.addNew {t : SymTab} (h : TermsNodup t) (a : String) {t1 t2 : SymTab}
    (h1 : t1.terminals.map (·.name) = t.terminals.map (·.name)) (defs : List TermDef)
    (h2 : t2.terminals = t.terminals ++ [⟨a, defs⟩]) :
    TermsNodup (if t.terminals.any (·.name == a) then t1 else t2) := by
  unfold TermsNodup at *
  split
  · rw [h1]; exact h
  · rename_i hn
    rw [h2, List.map_append, List.nodup_append]
    refine ⟨h, List.Pairwise.cons nofun .nil, fun x hx y hy hxy => hn ?_⟩
    rw [List.mem_singleton.mp hy] at hxy
    obtain ⟨e, he, rfl⟩ := List.mem_map.mp hx
    exact List.any_eq_true.mpr ⟨e, he, beq_iff_eq.mpr hxy⟩

theorem TermsNodup.addDef {t : SymTab} (h : TermsNodup t) (a : String) (d : TermDef) : TermsNodup (addDef t a d) := by
  refine h.addNew a ?_ [d] rfl
  rw [List.map_map]
  exact List.map_congr_left fun e _ => by dsimp only [Function.comp]; split <;> rfl

theorem TermsNodup.addStringTerminal {t : SymTab} (h : TermsNodup t) (key text : String) :
    TermsNodup (addStringTerminal t key text) := h.addNew key rfl _ rfl

theorem TermsNodup.addTokenTerminal {t : SymTab} (h : TermsNodup t) (a : String) : TermsNodup (addTokenTerminal t a) :=
  h.addNew a rfl [] rfl

/-- **Every action keeps one entry per terminal name**: a successful action touches the terminals only by
    `addStringTerminal`, `addTokenTerminal` or `addDef` (`action_effect`). -/
theorem TermsNodup.action {t t' : SymTab} (h : TermsNodup t) (cfg : Cfg) (file : String) (names predefs : List (String × String))
    (i : Nat) (rhs : List PVal) (v : Val) (ha : action cfg file names predefs t i rhs = .ok (t', v)) : TermsNodup t' := by
  have frame : ∀ {t'' : SymTab}, t''.terminals = t.terminals → TermsNodup t'' := by
    intro t'' e; unfold TermsNodup; rw [e]; exact h
  rcases action_effect ha with e | ⟨_, l, rfl⟩
  · cases e with
    | unchanged => exact h
    | stringTerminal key text => exact h.addStringTerminal key text
    | tokenTerminal a => exact h.addTokenTerminal a
    | define a d => exact h.addDef a d
    | nonTerminal A => exact frame (by rw [addNonTerminal_frame])
    | closure s k => exact frame (by rw [closureAction_frame])
    | productions ps => exact frame (by rw [foldl_addProduction_frame])
    | error e => exact h
  · exact h

/-! ### the entries are visited in name order: a permutation of the table -/

theorem sortStr_perm (l : List String) : (sortStr l).Perm l :=
  perm_foldr_insert (· ≤ ·) insertStr (fun _ => rfl) (fun _ _ _ => rfl) l

theorem sortStr_nil_iff (l : List String) : sortStr l = [] ↔ l = [] := by
  constructor
  · intro h; have := (sortStr_perm l).length_eq; rw [h] at this; exact List.length_eq_zero_iff.mp this.symm
  · intro h; rw [h]; rfl

theorem find_self {l : List TermEntry} (h : (l.map (·.name)).Nodup) {e : TermEntry} (he : e ∈ l) :
    l.find? (·.name == e.name) = some e := by
  induction l with
  | nil => cases he
  | cons x l ih =>
    rw [List.map_cons, List.nodup_cons] at h
    rw [List.find?_cons]
    rcases List.mem_cons.mp he with rfl | he'
    · rw [beq_self_eq_true]
    · rw [show (x.name == e.name) = false from beq_eq_false_iff_ne.mpr fun hx => h.1 (hx ▸ List.mem_map_of_mem he')]
      exact ih h.2 he'

/-- Visiting the entries in the order of their names visits every entry exactly once. -/
theorem sortedTerminalEntries_perm {t : SymTab} (h : TermsNodup t) : (sortedTerminalEntries t).Perm t.terminals := by
  refine ((sortStr_perm _).filterMap _).trans (.of_eq ?_)
  rw [List.filterMap_map]
  exact filterMap_eq_self fun e he => find_self h he

/-! ### `ensureSingleDefs` -/

/-- a line for every terminal of the table that has no definition, or more than one -/
theorem mem_ensureSingleDefs (file : String) {t : SymTab} (h : TermsNodup t) (m : String) :
    m ∈ ensureSingleDefs file t ↔
      (∃ e ∈ t.terminals, e.defs.length = 0 ∧ m = "no definition for terminal " ++ goQuote e.name) ∨
      (∃ e ∈ t.terminals, 1 < e.defs.length ∧ m = "multiple definitions for terminal " ++ goQuote e.name ++ ":\n" ++
          "\n".intercalate (e.defs.map fun d => "  " ++ posText file d.pos)) := by
  simp only [ensureSingleDefs, List.mem_flatMap, (sortedTerminalEntries_perm h).mem_iff, ← exists_or, ← and_or_left]
  refine exists_congr fun e => and_congr_right fun _ => ?_
  split
  · rename_i h0
    simp only [List.mem_singleton, beq_iff_eq.mp h0, true_and, Nat.not_lt_zero, false_and, or_false]
  · rename_i h0
    have h0 : e.defs.length ≠ 0 := fun h => h0 (beq_iff_eq.mpr h)
    split
    · rename_i h1
      simp only [List.mem_singleton, h0, false_and, false_or, gt_iff_lt.mp h1, true_and]
    · rename_i h1
      simp only [List.not_mem_nil, h0, false_and, false_or, show ¬ 1 < e.defs.length from h1]

/-- No line exactly when every terminal of the table has exactly one definition. -/
theorem ensureSingleDefs_nil_iff (file : String) {t : SymTab} (h : TermsNodup t) :
    ensureSingleDefs file t = [] ↔ ∀ e ∈ t.terminals, e.defs.length = 1 := by
  rw [List.eq_nil_iff_forall_not_mem]
  simp only [mem_ensureSingleDefs file h, not_or, not_exists, not_and]
  constructor
  · intro hall e he
    have h0 : e.defs.length ≠ 0 := fun h0 => (hall _).1 e he h0 rfl
    have h1 : ¬ 1 < e.defs.length := fun h1 => (hall _).2 e he h1 rfl
    omega
  · intro hall m
    exact ⟨fun e he h0 => absurd (hall e he) (by omega), fun e he h1 => absurd (hall e he) (by omega)⟩

/-! ### `ensureDistinctDefs` -/

def single (e : TermEntry) : Option TermDef := match e.defs with | [d] => some d | _ => none

/-- the definitions of the terminals that have exactly one, in table order -/
def singleDefs (t : SymTab) : List TermDef := t.terminals.filterMap single

theorem single_eq_some {e : TermEntry} {d : TermDef} : single e = some d ↔ e.defs = [d] := by
  unfold single
  split
  · rename_i d' hd; rw [hd, Option.some.injEq, List.cons.injEq, and_iff_left rfl]
  · rename_i hne; exact ⟨nofun, fun h => absurd h (hne d)⟩

/-- `Definitions()` hands on the single definitions, reordered. -/
theorem definitions_perm (t : SymTab) : (definitions t).Perm (singleDefs t) :=
  perm_foldr_insert (fun x y => defLe x y = true) insertDef (fun _ => rfl) (fun _ _ _ => rfl) _

/-- a list has no two elements with the same key iff every key occurs at most once -/
theorem nodup_map_iff_filter {α} (g : α → String) (l : List α) :
    (l.map g).Nodup ↔ ∀ v, (l.filter (g · == v)).length ≤ 1 := by
  simp only [List.nodup_iff_count, List.count_eq_countP, List.countP_eq_length_filter, List.filter_map, List.length_map,
    Function.comp_def]

/-- `ensureDistinctDefs` as a function of the list of single definitions it collects -/
def distinctMsgs (file : String) (singles : List TermDef) : List String :=
  let values := singles.foldl (fun acc d => if acc.contains d.value then acc else acc ++ [d.value]) ([] : List String)
  values.flatMap fun v =>
    let ds := singles.filter (·.value == v)
    if ds.length > 1 then
      ["multiple definitions with the same value: " ++ goQuote v ++ "\n" ++
        "\n".intercalate (ds.map fun d => "  " ++ posText file d.pos ++ ": " ++ goQuote d.term)]
    else []

theorem ensureDistinctDefs_eq (file : String) (t : SymTab) :
    ensureDistinctDefs file t = distinctMsgs file ((sortedTerminalEntries t).filterMap single) := rfl

theorem singles_perm {t : SymTab} (h : TermsNodup t) : ((sortedTerminalEntries t).filterMap single).Perm (singleDefs t) :=
  (sortedTerminalEntries_perm h).filterMap single

/-- a line for every value that more than one of the definitions has -/
theorem mem_distinctMsgs (file : String) (singles : List TermDef) (m : String) :
    m ∈ distinctMsgs file singles ↔ ∃ v, 1 < (singles.filter (·.value == v)).length ∧
      m = "multiple definitions with the same value: " ++ goQuote v ++ "\n" ++
        "\n".intercalate ((singles.filter (·.value == v)).map fun d => "  " ++ posText file d.pos ++ ": " ++ goQuote d.term) := by
  simp only [distinctMsgs, List.mem_flatMap, mem_foldl_addNew TermDef.value, List.not_mem_nil, false_or, List.mem_ite_nil_right,
    List.mem_singleton, gt_iff_lt]
  refine exists_congr fun v => and_iff_right_of_imp fun ⟨hlen, _⟩ => ?_
  -- a value that occurs twice occurs
  obtain ⟨d, hd⟩ := List.exists_mem_of_length_pos (Nat.lt_of_succ_lt hlen)
  exact ⟨d, (List.mem_filter.mp hd).1, beq_iff_eq.mp (List.mem_filter.mp hd).2⟩

/-- Every line names a value that two singly-defined terminals share. -/
theorem ensureDistinctDefs_sound (file : String) {t : SymTab} (h : TermsNodup t) (m : String) (hm : m ∈ ensureDistinctDefs file t) :
    ∃ v rest, 1 < ((singleDefs t).filter (·.value == v)).length ∧
      m = "multiple definitions with the same value: " ++ goQuote v ++ "\n" ++ rest := by
  rw [ensureDistinctDefs_eq, mem_distinctMsgs] at hm
  obtain ⟨v, hlen, hm⟩ := hm
  exact ⟨v, _, ((singles_perm h).filter (·.value == v)).length_eq ▸ hlen, hm⟩

theorem distinctMsgs_nil_iff (file : String) (singles : List TermDef) :
    distinctMsgs file singles = [] ↔ (singles.map (·.value)).Nodup := by
  rw [List.eq_nil_iff_forall_not_mem, nodup_map_iff_filter]
  simp only [mem_distinctMsgs, not_exists, not_and]
  exact ⟨fun h v => Nat.le_of_not_lt fun hl => h _ v hl rfl, fun h m v hl _ => absurd hl (Nat.not_lt.mpr (h v))⟩

/-- No line exactly when the values of the singly-defined terminals are pairwise distinct. -/
theorem ensureDistinctDefs_nil_iff (file : String) {t : SymTab} (h : TermsNodup t) :
    ensureDistinctDefs file t = [] ↔ ((singleDefs t).map (·.value)).Nodup := by
  rw [ensureDistinctDefs_eq, distinctMsgs_nil_iff, ((singles_perm h).map (·.value)).nodup_iff]

/-! ### `ensureStart`, `CFG.Verify`, `PrecedenceLevels.Verify` -/

def HasProd (t : SymTab) (n : String) : Prop := t.prods.any (·.head == n) = true

def Declared (t : SymTab) : GSym → Prop
  | .t a => t.terminals.any (·.name == a) = true
  | .nt A => t.nonTerminals.contains A = true

theorem ensureStart_nil_iff (t : SymTab) : ensureStart t = [] ↔ HasProd t "start" := by
  simp only [ensureStart, HasProd, ite_eq_left_iff, List.cons_ne_nil, imp_false, Classical.not_not]

theorem ensureStart_sound (t : SymTab) (m : String) (hm : m ∈ ensureStart t) : ¬ HasProd t "start" :=
  (List.mem_ite_nil_left.mp hm).1

/-- the four clauses of `cfgVerify` -/
structure CfgOk (t : SymTab) : Prop where
  startDeclared : t.nonTerminals.contains "start" = true
  startProd : HasProd t "start"
  productive : ∀ n ∈ t.nonTerminals, HasProd t n
  closed : ∀ p ∈ t.prods, t.nonTerminals.contains p.head = true ∧ ∀ s ∈ p.body, Declared t s

theorem cfgVerify_nil_iff (t : SymTab) : cfgVerify t = [] ↔ CfgOk t := by
  simp only [cfgVerify, List.append_eq_nil_iff, List.filterMap_eq_nil_iff, List.flatMap_eq_nil_iff, ite_eq_left_iff,
    List.cons_ne_nil, reduceCtorEq, imp_false, Classical.not_not]
  constructor
  · rintro ⟨⟨⟨h1, h2⟩, h3⟩, h4⟩
    refine ⟨h1, h2, h3, fun p hp => ⟨(h4 p hp).1, fun s hs => ?_⟩⟩
    have := (h4 p hp).2 s hs
    cases s <;> simpa only [Declared, ite_eq_left_iff, reduceCtorEq, imp_false, Classical.not_not] using this
  · rintro ⟨h1, h2, h3, h4⟩
    refine ⟨⟨⟨h1, h2⟩, h3⟩, fun p hp => ⟨(h4 p hp).1, fun s hs => ?_⟩⟩
    have := (h4 p hp).2 s hs
    cases s <;> simpa only [Declared, ite_eq_left_iff, reduceCtorEq, imp_false, Classical.not_not] using this

/-- Every line of the grammar check names a defect that is present. -/
theorem cfgVerify_sound (t : SymTab) (m : String) (hm : m ∈ cfgVerify t) :
    (t.nonTerminals.contains "start" = false) ∨ (¬ HasProd t "start") ∨
    (∃ n ∈ t.nonTerminals, ¬ HasProd t n ∧ m = "no production rule for non-terminal symbol " ++ n) ∨
    (∃ p ∈ t.prods, t.nonTerminals.contains p.head = false ∨ ∃ s ∈ p.body, ¬ Declared t s) := by
  simp only [cfgVerify, List.mem_append, List.mem_filterMap, List.mem_flatMap, List.mem_ite_nil_left, List.mem_singleton,
    Option.ite_none_left_eq_some, Option.some.injEq] at hm
  rcases hm with ((⟨h, _⟩ | ⟨h, _⟩) | ⟨n, hn, h, e⟩) | ⟨p, hp, ⟨h, _⟩ | ⟨s, hs, h⟩⟩
  · exact .inl (Bool.eq_false_iff.mpr h)
  · exact .inr (.inl h)
  · exact .inr (.inr (.inl ⟨n, hn, h, e.symm⟩))
  · exact .inr (.inr (.inr ⟨p, hp, .inl (Bool.eq_false_iff.mpr h)⟩))
  · refine .inr (.inr (.inr ⟨p, hp, .inr ⟨s, hs, ?_⟩⟩))
    cases s <;> simp only [Option.ite_none_left_eq_some] at h <;> exact h.1

theorem mem_pairsIdx (n i j : Nat) : (i, j) ∈ pairsIdx n ↔ i < j ∧ j < n := by
  unfold pairsIdx
  simp only [List.mem_flatMap, List.mem_range, List.mem_map, List.mem_filter, decide_eq_true_eq, Prod.mk.injEq]
  constructor
  · rintro ⟨a, _, b, ⟨hb, hab⟩, rfl, rfl⟩; exact ⟨hab, hb⟩
  · rintro ⟨hij, hj⟩; exact ⟨i, by omega, j, ⟨hj, hij⟩, rfl, rfl⟩

/-- no handle is listed in two levels -/
def LevelsDisjoint (ls : List Level) : Prop :=
  ∀ i j, i < j → j < ls.length → ∀ h ∈ ((ls[i]?).getD default).handles, h ∉ ((ls[j]?).getD default).handles

theorem inter_isEmpty (a b : List GHandle) : (a.filter b.contains).isEmpty = true ↔ ∀ h ∈ a, h ∉ b := by
  simp only [List.isEmpty_iff, List.filter_eq_nil_iff, List.contains_iff_mem]

theorem precVerify_nil_iff (ls : List Level) : precVerify ls = [] ↔ LevelsDisjoint ls := by
  simp only [precVerify, LevelsDisjoint, List.filterMap_eq_nil_iff, Prod.forall, mem_pairsIdx, ite_eq_left_iff,
    reduceCtorEq, imp_false, Classical.not_not, inter_isEmpty, and_imp]

/-- Every line of the precedence check names handles that really are in two levels. -/
theorem precVerify_sound (ls : List Level) (m : String) (hm : m ∈ precVerify ls) :
    ∃ i j h, i < j ∧ j < ls.length ∧ h ∈ ((ls[i]?).getD default).handles ∧ h ∈ ((ls[j]?).getD default).handles := by
  simp only [precVerify, List.mem_filterMap, Prod.exists, mem_pairsIdx, Option.ite_none_left_eq_some, inter_isEmpty,
    Classical.not_forall, Classical.not_not, exists_prop] at hm
  obtain ⟨i, j, ⟨hij, hj⟩, ⟨h, h1, h2⟩, _⟩ := hm
  exact ⟨i, j, h, hij, hj, h1, h2⟩

/-! ### well-formedness of the table -/

/-- What the property calls a well-formed specification, read off the symbol table:
    every terminal has exactly one definition, no two terminals have the same value, every predefined
    name was known, `start` and every other non-terminal have a production, the grammar is closed,
    and no handle is listed in two precedence levels. -/
structure WellFormed (t : SymTab) : Prop where
  defined : ∀ e ∈ t.terminals, e.defs.length = 1
  distinct : ((singleDefs t).map (·.value)).Nodup
  predefined : t.errs = []
  grammar : CfgOk t
  levels : LevelsDisjoint t.levels

theorem checkers_nil_iff (file : String) {t : SymTab} (h : TermsNodup t) :
    (verify file t = [] ∧ t.errs = [] ∧ cfgVerify t = [] ∧ precVerify t.levels = []) ↔ WellFormed t := by
  unfold verify
  simp only [List.append_eq_nil_iff]
  rw [ensureSingleDefs_nil_iff file h, ensureDistinctDefs_nil_iff file h, cfgVerify_nil_iff, precVerify_nil_iff, ensureStart_nil_iff]
  constructor
  · rintro ⟨⟨⟨h1, h2⟩, _⟩, h4, h5, h6⟩; exact ⟨h1, h2, h4, h5, h6⟩
  · rintro ⟨h1, h2, h3, h4, h5⟩; exact ⟨⟨⟨h1, h2⟩, h4.startProd⟩, h3, h4, h5⟩

/-- A defect of the table that a diagnostic line `m` names. -/
def Defect (file : String) (t : SymTab) (m : String) : Prop :=
  -- an unknown predefined name was recorded
  m ∈ t.errs ∨
  -- a terminal without a definition / with several
  (∃ e ∈ t.terminals, e.defs.length = 0 ∧ m = "no definition for terminal " ++ goQuote e.name) ∨
  (∃ e ∈ t.terminals, 1 < e.defs.length ∧ m = "multiple definitions for terminal " ++ goQuote e.name ++ ":\n" ++
      "\n".intercalate (e.defs.map fun d => "  " ++ posText file d.pos)) ∨
  -- two terminals with the same value
  (∃ v rest, 1 < ((singleDefs t).filter (·.value == v)).length ∧
      m = "multiple definitions with the same value: " ++ goQuote v ++ "\n" ++ rest) ∨
  -- no start rule, an undeclared start symbol, a non-terminal without a production, an undeclared symbol
  (¬ HasProd t "start") ∨ (t.nonTerminals.contains "start" = false) ∨
  (∃ n ∈ t.nonTerminals, ¬ HasProd t n ∧ m = "no production rule for non-terminal symbol " ++ n) ∨
  (∃ p ∈ t.prods, t.nonTerminals.contains p.head = false ∨ ∃ s ∈ p.body, ¬ Declared t s) ∨
  -- a handle in two levels
  (∃ i j h, i < j ∧ j < t.levels.length ∧ h ∈ ((t.levels[i]?).getD default).handles ∧ h ∈ ((t.levels[j]?).getD default).handles)

/-- **Every line of every checker names a defect that is present.** -/
theorem Defect.of_checker (file : String) {t : SymTab} (ht : TermsNodup t) {m : String}
    (hm : m ∈ t.errs ∨ m ∈ verify file t ∨ m ∈ cfgVerify t ∨ m ∈ precVerify t.levels) : Defect file t m := by
  unfold Defect
  -- each case ends with the defect found, `hd`, which is one of the alternatives of `Defect`
  rcases hm with hd | h | h | h
  · exact .inl hd
  · simp only [verify, List.mem_append] at h
    rcases h with (h | h) | h
    · rcases (mem_ensureSingleDefs file ht m).mp h with hd | hd <;> simp only [hd, true_or, or_true]
    · have hd := ensureDistinctDefs_sound file ht m h
      simp only [hd, true_or, or_true]
    · have hd := ensureStart_sound t m h
      simp only [hd, not_false_eq_true, true_or, or_true]
  · rcases cfgVerify_sound t m h with hd | hd | hd | hd <;> simp only [hd, not_false_eq_true, true_or, or_true]
  · have hd := precVerify_sound t.levels m h
    simp only [hd, or_true]

end Emerge.Props.C07
