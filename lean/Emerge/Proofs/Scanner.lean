import Emerge.Scanner
/-
  General theorems about the table-driven scanner model (any transition function, any
  accepting table): maximal munch, partition of the input, positions.
-/
namespace Emerge.Scanner

/-- `c` is the longest prefix of `rs` along which the automaton can run from `s`; it reaches `q`. -/
def LongestRun (adv : Nat → Rune → Option Nat) (s : Nat) (rs c : List Rune) (q : Nat) : Prop :=
  c <+: rs ∧ run adv s c = some q ∧
    ∀ c', c' <+: rs → c.length < c'.length → run adv s c' = none

/-- the automaton cannot go on from `q` into `rest`: the input has ended or its next rune has no transition -/
def Stuck (adv : Nat → Rune → Option Nat) (q : Nat) (rest : List Rune) : Prop :=
  rest = [] ∨ ∃ r rest', rest = r :: rest' ∧ adv q r = none

theorem run_append (adv) : ∀ s a b, run adv s (a ++ b) = (run adv s a).bind (fun q => run adv q b) := by
  intro s a b
  induction a generalizing s with
  | nil => simp [run]
  | cons x a ih =>
    simp only [List.cons_append, run]
    cases adv s x with
    | none => simp
    | some s' => simpa using ih s'

/-! ### the longest run is the run that ends stuck, and `munch` computes it -/

theorem LongestRun.stuck {adv s c rest q} (h : LongestRun adv s (c ++ rest) c q) : Stuck adv q rest := by
  cases rest with
  | nil => exact .inl rfl
  | cons r t =>
    have := h.2.2 (c ++ [r]) (by simp [List.prefix_append_right_inj]) (by simp)
    rw [run_append, h.2.1] at this
    refine .inr ⟨r, t, rfl, ?_⟩
    cases hq : adv q r with
    | none => rfl
    | some s' => simp [run, hq] at this

theorem longestRun_of_stuck {adv s c rest q} (hr : run adv s c = some q) (hst : Stuck adv q rest) :
    LongestRun adv s (c ++ rest) c q := by
  refine ⟨List.prefix_append _ _, hr, fun c' hpre hlen => ?_⟩
  -- `c'` goes on behind `c` with a rune of `rest`, and that rune has no transition
  obtain ⟨u, rfl⟩ := List.prefix_of_prefix_length_le (List.prefix_append c rest) hpre (Nat.le_of_lt hlen)
  have hu : u <+: rest := (List.prefix_append_right_inj c).mp hpre
  rw [run_append, hr]
  cases u with
  | nil => simp at hlen
  | cons x u' =>
    rcases hst with rfl | ⟨r, t, rfl, hd⟩
    · simp at hu
    · obtain rfl : x = r := (List.cons_prefix_cons.mp hu).1
      simp [run, hd]

/-- The longest run is unique. -/
theorem LongestRun.unique {adv s rs c q c' q'} (h : LongestRun adv s rs c q)
    (h' : LongestRun adv s rs c' q') : c = c' ∧ q = q' := by
  have hl : c.length = c'.length := by
    rcases Nat.lt_trichotomy c.length c'.length with hlt | heq | hgt
    · have := h.2.2 c' h'.1 hlt; rw [h'.2.1] at this; cases this
    · exact heq
    · have := h'.2.2 c h.1 hgt; rw [h.2.1] at this; cases this
  have hc : c = c' := (List.prefix_of_prefix_length_le h.1 h'.1 (Nat.le_of_eq hl)).eq_of_length hl
  subst hc
  exact ⟨rfl, Option.some.inj (h.2.1.symm.trans h'.2.1)⟩

section
variable {adv : Nat → Rune → Option Nat} {s q : Nat} {rs c rest : List Rune}

theorem munch_cons_none {r : Rune} (rs : List Rune) (h : adv s r = none) :
    munch adv s (r :: rs) = (s, [], r :: rs) := by
  simp [munch, h]

theorem munch_cons_some {s' : Nat} {r : Rune} (rs : List Rune) (h : adv s r = some s') :
    munch adv s (r :: rs) = ((munch adv s' rs).1, r :: (munch adv s' rs).2.1, (munch adv s' rs).2.2) := by
  simp [munch, h]

/-- `munch` splits the input into a run and a rest at which the automaton is stuck -/
theorem munch_spec (hm : munch adv s rs = (q, c, rest)) :
    c ++ rest = rs ∧ run adv s c = some q ∧ Stuck adv q rest := by
  induction rs generalizing s q c rest with
  | nil => cases hm; exact ⟨rfl, rfl, .inl rfl⟩
  | cons r rs ih =>
    cases h : adv s r with
    | none =>
      rw [munch_cons_none rs h] at hm
      cases hm
      exact ⟨rfl, rfl, .inr ⟨r, rs, rfl, h⟩⟩
    | some s' =>
      rw [munch_cons_some rs h] at hm
      cases hm
      obtain ⟨h1, h2, h3⟩ := ih rfl
      exact ⟨congrArg (r :: ·) h1, by simpa only [run, h] using h2, h3⟩

theorem longestRun_of_munch (hm : munch adv s rs = (q, c, rest)) : LongestRun adv s rs c q := by
  obtain ⟨rfl, h2, h3⟩ := munch_spec hm
  exact longestRun_of_stuck h2 h3

theorem munch_append (adv) (s rs) : (munch adv s rs).2.1 ++ (munch adv s rs).2.2 = rs := (munch_spec rfl).1

theorem munch_longest (adv) (s : Nat) (rs : List Rune) :
    LongestRun adv s rs (munch adv s rs).2.1 (munch adv s rs).1 :=
  longestRun_of_munch rfl

/-- and every such split is the one `munch` computes -/
theorem munch_eq {a b : List Rune} (hr : run adv s a = some q)
    (hst : Stuck adv q b) : munch adv s (a ++ b) = (q, a, b) := by
  obtain ⟨e1, e2⟩ := (munch_longest adv s (a ++ b)).unique (longestRun_of_stuck hr hst)
  have h1 := munch_append adv s (a ++ b)
  rw [e1] at h1
  exact Prod.ext e2 (Prod.ext e1 (List.append_cancel_left h1))

theorem munch_rest_lt_of (hm : munch adv s rs = (q, c, rest)) (hc : c ≠ []) : rest.length < rs.length := by
  have := congrArg List.length (munch_spec hm).1
  have := List.length_pos_iff.mpr hc
  simp only [List.length_append] at *
  omega

theorem munch_rest_lt (hc : (munch adv s rs).2.1 ≠ []) : (munch adv s rs).2.2.length < rs.length :=
  munch_rest_lt_of rfl hc

end

theorem munch_length_le (adv) (s rs) : (munch adv s rs).2.2.length ≤ rs.length := by
  have := congrArg List.length (munch_append adv s rs)
  simp at this; omega

/-- Declarative description of the segmentation of an input into maximal runs from state 0,
    for an automaton in which state 0 is never re-entered. -/
inductive Segmented (S : Spec) : Pos → List Rune → List Seg → End → Prop where
  | eof (p : Pos) : Segmented S p [] [] .eof
  | seg (p : Pos) (rs c rest : List Rune) (q : Nat) (segs : List Seg) (e : End) :
      rs ≠ [] → LongestRun S.adv 0 rs c q → rs = c ++ rest → c ≠ [] → (S.eval q).isSome = true →
      Segmented S (advPosList p c) rest segs e →
      Segmented S p rs (⟨q, c, p⟩ :: segs) e
  | err (p : Pos) (rs c : List Rune) (q : Nat) :
      rs ≠ [] → LongestRun S.adv 0 rs c q → S.eval q = none →
      Segmented S p rs [] (.lexErr p c)

/-- State 0 is only the start state. -/
def NoReentry (S : Spec) : Prop := ∀ s r, S.adv s r ≠ some 0

theorem run_ne_zero {adv} (h : ∀ s r, adv s r ≠ some 0) (s : Nat) (c : List Rune) (hc : c ≠ []) :
    run adv s c ≠ some 0 := by
  -- the last transition of the run does not lead to 0
  obtain ⟨c', x, rfl⟩ := (List.eq_nil_or_concat c).resolve_left hc
  rw [List.concat_eq_append, run_append]
  cases run adv s c' with
  | none => simp
  | some q =>
    cases hx : adv q x with
    | none => simp [run, hx]
    | some s' => simpa [run, hx] using fun h0 : s' = 0 => h q x (h0 ▸ hx)

/-- The segmentation is uniquely determined by the declarative description. -/
theorem Segmented.unique {S p rs segs e segs' e'} (h : Segmented S p rs segs e)
    (h' : Segmented S p rs segs' e') : segs = segs' ∧ e = e' := by
  induction h generalizing segs' e' with
  | eof p =>
    cases h' with
    | eof => exact ⟨rfl, rfl⟩
    | seg _ _ _ _ _ _ _ hne => exact absurd rfl hne
    | err _ _ _ _ hne => exact absurd rfl hne
  | seg p rs c rest q segs e hne hL hsplit hc hev _ ih =>
    cases h' with
    | eof => exact absurd rfl hne
    | seg _ _ c' rest' q' segs'' _ _ hL' hsplit' _ _ hrest' =>
      obtain ⟨rfl, rfl⟩ := hL.unique hL'
      obtain rfl : rest = rest' := List.append_cancel_left (hsplit.symm.trans hsplit')
      obtain ⟨rfl, rfl⟩ := ih hrest'
      exact ⟨rfl, rfl⟩
    | err _ _ c' q' _ hL' hev' =>
      obtain ⟨-, rfl⟩ := hL.unique hL'
      rw [hev'] at hev; cases hev
  | err p rs c q hne hL hev =>
    cases h' with
    | eof => exact absurd rfl hne
    | seg _ _ c' rest' q' _ _ _ hL' _ _ hev' =>
      obtain ⟨-, rfl⟩ := hL.unique hL'
      rw [hev] at hev'; cases hev'
    | err _ _ c' q' _ hL' _ =>
      obtain ⟨rfl, -⟩ := hL.unique hL'
      exact ⟨rfl, rfl⟩

/-- Partition: the segments, followed by the offending text of a lexical error, are a prefix of the
    input, and the whole input when the scan ends with end-of-input. -/
theorem Segmented.partition {S p rs segs e} (h : Segmented S p rs segs e) :
    (e = .eof → (segs.map Seg.text).flatten = rs) ∧
    (∀ p' t, e = .lexErr p' t → ((segs.map Seg.text).flatten ++ t) <+: rs) ∧
    e ≠ .stuck := by
  induction h with
  | eof p => simp
  | seg p rs c rest q segs e _ _ hsplit _ _ _ ih =>
    refine ⟨?_, ?_, ih.2.2⟩
    · intro he; simp; rw [ih.1 he, hsplit]
    · intro p' t he
      simp
      rw [hsplit]
      exact (List.prefix_append_right_inj c).mpr (ih.2.1 p' t he)
  | err p rs c q _ hL _ =>
    refine ⟨by simp, ?_, by simp⟩
    intro p' t he
    cases he
    simpa using hL.1

/-- Positions: every segment starts where the text before it ends. -/
theorem Segmented.positions {S p rs segs e} (h : Segmented S p rs segs e) :
    ∀ i (hi : i < segs.length),
      (segs[i]).pos = advPosList p ((segs.take i).map Seg.text).flatten := by
  induction h with
  | eof p => intro i hi; simp at hi
  | seg p rs c rest q segs e _ _ _ _ _ _ ih =>
    intro i hi
    cases i with
    | zero => simp
    | succ j =>
      simp at hi
      simp [advPosList_append, ih j hi]
  | err p rs c q _ _ _ => intro i hi; simp at hi

/-! ### segmentation with canonical fuel -/

/-- Induction along the maximal runs from state 0: the rest behind a non-empty run is shorter than the input. -/
theorem munch_induction {adv : Nat → Rune → Option Nat} {P : List Rune → Prop} (nil : P [])
    (cons : ∀ x xs q c rest, munch adv 0 (x :: xs) = (q, c, rest) → (c ≠ [] → P rest) → P (x :: xs)) :
    ∀ rs, P rs := by
  intro rs
  induction hk : rs.length using Nat.strongRecOn generalizing rs with
  | _ k ih =>
    cases rs with
    | nil => exact nil
    | cons x xs =>
      generalize hm : munch adv 0 (x :: xs) = m
      obtain ⟨q, c, rest⟩ := m
      exact cons x xs q c rest hm fun hc => ih _ (hk ▸ munch_rest_lt_of hm hc) _ rfl

/-- segmentation with canonical fuel -/
def seg (S : Spec) (p : Pos) (rs : List Rune) : List Seg × End := segments S (rs.length + 1) p rs

/-- Enough fuel is any fuel. -/
theorem segments_eq_seg (S : Spec) (rs : List Rune) : ∀ (n : Nat) (p : Pos), rs.length < n →
    segments S n p rs = seg S p rs := by
  induction rs using munch_induction (adv := S.adv) with
  | nil =>
    intro n p hn
    cases n with
    | zero => omega
    | succ n => rfl
  | cons x xs q c rest hm ih =>
    intro n p hn
    cases n with
    | zero => omega
    | succ n =>
      by_cases hc : c = []
      · simp only [seg, segments, hm, hc, if_true]
      · have := munch_rest_lt_of hm hc
        simp only [List.length_cons] at this hn
        simp only [seg, segments, hm, List.length_cons, ih hc n _ (by omega), ih hc (xs.length + 1) _ (by omega)]

theorem seg_nil (S : Spec) (p : Pos) : seg S p [] = ([], .eof) := rfl

/-- one-step unfolding of the segmentation -/
theorem seg_cons (S : Spec) (p : Pos) {x : Rune} {xs c rest : List Rune} {q : Nat}
    (hm : munch S.adv 0 (x :: xs) = (q, c, rest)) :
    seg S p (x :: xs) =
      if rest = [] ∧ q = 0 then ([], .eof)
      else match S.eval q with
        | none => ([], .lexErr p c)
        | some _ =>
          if c = [] then ([], .stuck)
          else (⟨q, c, p⟩ :: (seg S (advPosList p c) rest).1, (seg S (advPosList p c) rest).2) := by
  by_cases hc : c = []
  · simp only [seg, segments, hm, hc, if_true]
    rfl
  · have := munch_rest_lt_of hm hc
    simp only [List.length_cons] at this
    simp only [seg, segments, hm, List.length_cons, segments_eq_seg S rest _ _ this]
    rfl

theorem scan_eq_seg (S : Spec) (rs : List Rune) :
    scan S rs = ((seg S Pos.start rs).1.filterMap (tokenOf S), (seg S Pos.start rs).2) := rfl

theorem seg_segmented (S : Spec) (h0 : NoReentry S) (hz : S.eval 0 = none) (p : Pos) (rs : List Rune) :
    Segmented S p rs (seg S p rs).1 (seg S p rs).2 := by
  induction rs using munch_induction (adv := S.adv) generalizing p with
  | nil => exact .eof p
  | cons x xs q c rest hm ih =>
    have hL := longestRun_of_munch hm
    obtain ⟨happ, hrun, -⟩ := munch_spec hm
    -- state 0 is reached by the empty run only, and does not accept
    have hq : q = 0 → c = [] := fun hq => by
      false_or_by_contra
      rename_i hc
      exact run_ne_zero h0 0 c hc (hq ▸ hrun)
    rw [seg_cons S p hm]
    split
    · rename_i hcond
      rw [hcond.1, hq hcond.2] at happ
      cases happ
    · cases hev : S.eval q with
      | none => exact .err p _ _ _ (List.cons_ne_nil _ _) hL hev
      | some km =>
        have hne : c ≠ [] := fun hc => by
          rw [hc] at hrun
          rw [← Option.some.inj hrun, hz] at hev
          cases hev
        simp only [hne, if_false]
        exact .seg p _ c rest q _ _ (List.cons_ne_nil _ _) hL happ.symm hne (by rw [hev]; rfl) (ih hne _)

theorem segments_segmented (S : Spec) (h0 : NoReentry S) (hz : S.eval 0 = none) :
    ∀ n p rs, rs.length < n →
      Segmented S p rs (segments S n p rs).1 (segments S n p rs).2 := by
  intro n p rs hn
  rw [segments_eq_seg S rs n p hn]
  exact seg_segmented S h0 hz p rs

/-! ### compositionality: scanning a concatenation at a token boundary -/

/-- state in which the last segment ended (0 if there is none) -/
def lastState (segs : List Seg) : Nat := (segs.getLast?.map Seg.state).getD 0

theorem lastState_cons (g : Seg) {segs : List Seg} (h : segs ≠ []) : lastState (g :: segs) = lastState segs := by
  simp only [lastState, List.getLast?_cons_of_ne_nil h]

/-- The declarative description composes: behind a text segmented to its end, where the automaton cannot continue the
    last segment, the segmentation goes on as if the rest stood alone at that position. -/
theorem Segmented.append {S p a segsA b segsB e} (ha : Segmented S p a segsA .eof)
    (hst : segsA ≠ [] → Stuck S.adv (lastState segsA) b) (hb : Segmented S (advPosList p a) b segsB e) :
    Segmented S p (a ++ b) (segsA ++ segsB) e := by
  generalize hea : End.eof = ea at ha
  induction ha with
  | eof p => exact hb
  | seg p rs c rest q segs ea hne hL hsplit hc hev hrest ih =>
    subst hsplit
    -- more segments follow exactly when `rest` is not empty
    have hsegs : rest = [] ↔ segs = [] := by
      subst hea
      cases hrest with
      | eof => simp
      | seg => simp_all
    have hst' : Stuck S.adv q (rest ++ b) := by
      rcases hL.stuck with rfl | ⟨r, t, rfl, hd⟩
      · simpa [hsegs.mp rfl, lastState] using hst
      · exact .inr ⟨r, t ++ b, rfl, hd⟩
    rw [advPosList_append] at hb
    have := ih (fun h => by rw [← lastState_cons ⟨q, c, p⟩ h]; exact hst (by simp)) hb hea
    rw [List.append_assoc]
    exact .seg p _ c (rest ++ b) q _ e (by simp [hc]) (longestRun_of_stuck hL.2.1 hst') rfl hc hev this
  | err => cases hea

/-- **Compositionality at a token boundary.** If `a` is segmented completely (ending with
    end-of-input) and the automaton cannot continue the last segment of `a` with the first rune of
    `b`, then the segmentation of `a ++ b` is that of `a` followed by that of `b` started at the
    position after `a`. -/
theorem seg_append (S : Spec) (h0 : NoReentry S) (hz : S.eval 0 = none) (p : Pos) (a b : List Rune) (segsA : List Seg)
    (hseg : seg S p a = (segsA, .eof)) (hb : Stuck S.adv (lastState segsA) b) :
    seg S p (a ++ b) = (segsA ++ (seg S (advPosList p a) b).1, (seg S (advPosList p a) b).2) := by
  have ha := seg_segmented S h0 hz p a
  rw [hseg] at ha
  have := (seg_segmented S h0 hz p (a ++ b)).unique (ha.append (fun _ => hb) (seg_segmented S h0 hz _ b))
  exact Prod.ext this.1 this.2

/-! ### positions only depend on the start position; blanks only move the start position -/

def End.strip : End → End
  | .eof => .eof
  | .lexErr _ t => .lexErr ⟨0, 0, 0⟩ t
  | .stuck => .stuck

/-- Changing the start position changes nothing but positions. -/
theorem seg_shift (S : Spec) (p p' : Pos) (rs : List Rune) :
    (seg S p rs).1.map (fun g => (g.state, g.text)) = (seg S p' rs).1.map (fun g => (g.state, g.text)) ∧
    (seg S p rs).2.strip = (seg S p' rs).2.strip := by
  induction rs using munch_induction (adv := S.adv) generalizing p p' with
  | nil => exact ⟨rfl, rfl⟩
  | cons x xs q c rest hm ih =>
    rw [seg_cons S p hm, seg_cons S p' hm]
    split
    · exact ⟨rfl, rfl⟩
    cases S.eval q with
    | none => exact ⟨rfl, rfl⟩
    | some _ =>
      simp only
      split
      · exact ⟨rfl, rfl⟩
      · rename_i hc
        have := ih hc (advPosList p c) (advPosList p' c)
        simp only [List.map_cons, this.1, this.2, and_self]

/-- A class of "blank" runes: from the start state they lead to a skipped, accepting state that
    loops exactly on the runes of the same class. -/
structure BlankRune (S : Spec) (r : Rune) (s1 : Nat) : Prop where
  start : S.adv 0 r = some s1
  skipped : ∃ k m, S.eval s1 = some (k, m) ∧ S.skipped k = true
  /-- whatever continues in `s1` stays in `s1` and is also how the start state reaches `s1` -/
  loop : ∀ x s', S.adv s1 x = some s' → s' = s1 ∧ S.adv 0 x = some s1
  ne0 : s1 ≠ 0

/-- From the state of a blank rune the automaton only returns to that state. -/
theorem BlankRune.stays {S : Spec} {r : Rune} {s1 : Nat} (hb : BlankRune S r s1) :
    ∀ {c : List Rune} {q : Nat}, run S.adv s1 c = some q → q = s1
  | [], _, h => (Option.some.inj h).symm
  | x :: c, q, h => by
    simp only [run] at h
    cases hx : S.adv s1 x with
    | none => rw [hx] at h; cases h
    | some s' => rw [hx, (hb.loop x s' hx).1] at h; exact hb.stays h

theorem tokenOf_skipped {S : Spec} {q : Nat} {k m} (he : S.eval q = some (k, m)) (hs : S.skipped k = true)
    (c : List Rune) (p : Pos) : tokenOf S ⟨q, c, p⟩ = none := by
  simp [tokenOf, he, hs]

/-- **A leading blank only moves the start position**: the tokens (with their positions) and the
    ending of `r :: b` scanned from `p` are those of `b` scanned from the position after `r`. -/
theorem seg_leading_blank (S : Spec) {r : Rune} {s1 : Nat} (hb : BlankRune S r s1) (p : Pos) (b : List Rune) :
    (seg S p (r :: b)).1.filterMap (tokenOf S) = (seg S (advPos p r) b).1.filterMap (tokenOf S) ∧
    (seg S p (r :: b)).2 = (seg S (advPos p r) b).2 := by
  obtain ⟨k, m, hev, hsk⟩ := hb.skipped
  -- `c`: the blanks of the class of `r` at the head of `b`
  generalize hm : munch S.adv s1 b = mb
  obtain ⟨q, c, rest⟩ := mb
  obtain ⟨rfl, hrun, hst⟩ := munch_spec hm
  obtain rfl := hb.stays hrun
  -- the first segment of `r :: b` is `r :: c`; it is skipped
  have hm0 : munch S.adv 0 (r :: (c ++ rest)) = (q, r :: c, rest) :=
    munch_eq (a := r :: c) (by simpa only [run, hb.start] using hrun) hst
  rw [seg_cons S p hm0, if_neg (fun h => hb.ne0 h.2), hev]
  simp only [reduceCtorEq, if_false]
  rw [List.filterMap_cons, tokenOf_skipped hev hsk]
  cases c with
  | nil => exact ⟨rfl, rfl⟩
  | cons x c' =>
    -- `b` itself begins with the segment `c`: its first rune leads to `q` from the start state as from `q`
    cases hx : S.adv q x with
    | none => simp [run, hx] at hrun
    | some s' =>
      obtain ⟨rfl, h0x⟩ := hb.loop x s' hx
      have hmb : munch S.adv 0 (x :: (c' ++ rest)) = (s', x :: c', rest) :=
        munch_eq (a := x :: c') (by simpa only [run, h0x, hx] using hrun) hst
      rw [List.cons_append, seg_cons S (advPos p r) hmb, if_neg (fun h => hb.ne0 h.2), hev]
      simp only [reduceCtorEq, if_false]
      rw [List.filterMap_cons, tokenOf_skipped hev hsk]
      exact ⟨rfl, rfl⟩

end Emerge.Scanner
