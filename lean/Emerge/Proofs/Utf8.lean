import Emerge.Utf8
/-
  UTF-8: decoding the encoding of any sequence of Unicode scalar values gives the sequence back and ends
  with end of input — the link between "a text" (runes, the level of the scanner models) and "its bytes"
  (the level of the readers).
-/
namespace Emerge.Utf8

/-- Unicode scalar value: below 0x110000 and not a surrogate -/
def Scalar (r : Nat) : Prop := r < 0x110000 ∧ ¬ (0xD800 ≤ r ∧ r ≤ 0xDFFF)

/-- a continuation byte carries one digit to the base 64 -/
theorem cont_low (x : Nat) : cont (0x80 + x % 64) = true := by
  simp only [cont, Bool.and_eq_true, decide_eq_true_eq]; omega

theorem low_mod (x : Nat) : (0x80 + x % 64) % 64 = x % 64 := by omega

/-- the digits `x / b % 64` and below, for `b` a power of 64 -/
theorem digit (x b : Nat) : x / b % 64 * b + x % b = x % (b * 64) := by
  rw [Nat.mod_mul, Nat.mul_comm, Nat.add_comm]

/-- The byte sequences the decoder takes for one rune (the well-formed sequences of the Unicode standard: shortest
    form, no surrogates, at most U+10FFFF), each with the rune it stands for. -/
inductive Enc : List Nat → Nat → Prop where
  | one {b0} : b0 < 0x80 → Enc [b0] b0
  | two {b0 b1} : 0xC2 ≤ b0 → b0 ≤ 0xDF → cont b1 = true → Enc [b0, b1] (b0 % 32 * 64 + b1 % 64)
  | three {b0 b1 b2} : 0xE0 ≤ b0 → b0 ≤ 0xEF →
      (if b0 = 0xE0 then 0xA0 else 0x80) ≤ b1 → b1 ≤ (if b0 = 0xED then 0x9F else 0xBF) → cont b2 = true →
      Enc [b0, b1, b2] (b0 % 16 * 4096 + b1 % 64 * 64 + b2 % 64)
  | four {b0 b1 b2 b3} : 0xF0 ≤ b0 → b0 ≤ 0xF4 →
      (if b0 = 0xF0 then 0x90 else 0x80) ≤ b1 → b1 ≤ (if b0 = 0xF4 then 0x8F else 0xBF) → cont b2 = true →
      cont b3 = true → Enc [b0, b1, b2, b3] (b0 % 8 * 262144 + b1 % 64 * 4096 + b2 % 64 * 64 + b3 % 64)

/-- the encoding of a scalar value is such a sequence, and stands for it -/
theorem encodeRune_enc {r : Nat} (h : Scalar r) : Enc (encodeRune r) r := by
  obtain ⟨h1, h2⟩ := h
  unfold encodeRune
  by_cases c1 : r < 0x80
  · rw [if_pos c1]
    exact .one c1
  rw [if_neg c1]
  by_cases c2 : r < 0x800
  · rw [if_pos c2]
    have := Enc.two (b0 := 0xC0 + r / 64) (b1 := 0x80 + r % 64) (by omega) (by omega) (cont_low r)
    rwa [low_mod, show (0xC0 + r / 64) % 32 * 64 + r % 64 = r by omega] at this
  rw [if_neg c2]
  by_cases c3 : r < 0x10000
  · rw [if_pos c3]
    have := Enc.three (b0 := 0xE0 + r / 4096) (b1 := 0x80 + r / 64 % 64) (b2 := 0x80 + r % 64) (by omega) (by omega)
      (by split <;> omega) (by split <;> omega) (cont_low r)
    rwa [low_mod, low_mod, Nat.add_assoc, digit r 64, show (0xE0 + r / 4096) % 16 * 4096 + r % (64 * 64) = r by omega]
      at this
  · rw [if_neg c3]
    have := Enc.four (b0 := 0xF0 + r / 262144) (b1 := 0x80 + r / 4096 % 64) (b2 := 0x80 + r / 64 % 64)
      (b3 := 0x80 + r % 64) (by omega) (by omega) (by split <;> omega) (by split <;> omega) (cont_low _) (cont_low r)
    rwa [low_mod, low_mod, low_mod, Nat.add_assoc, Nat.add_assoc, digit r 64, digit r 4096,
      show (0xF0 + r / 262144) % 8 * 262144 + r % (4096 * 64) = r by omega] at this

/-- the decoder takes such a sequence for its rune and goes on behind it -/
theorem decode_enc {bs : List Nat} {r : Nat} (h : Enc bs r) (n : Nat) (rest : List Nat) :
    decode (n + 1) (bs ++ rest) = (r :: (decode n rest).1, (decode n rest).2) := by
  cases h with
  | @one b0 h0 => simp only [List.cons_append, List.nil_append, decode, h0, if_true]
  | @two b0 b1 h0 h0' h1 =>
    have a1 : ¬ b0 < 0x80 := by omega
    simp only [List.cons_append, List.nil_append, decode, a1, if_false, h0, h0', decide_true, Bool.and_self, if_true, h1]
  | @three b0 b1 b2 h0 h0' h1 h1' h2 =>
    have a1 : ¬ b0 < 0x80 := by omega
    have a2 : ¬ b0 ≤ 0xDF := by omega
    simp only [List.cons_append, List.nil_append, decode, a1, if_false, a2, decide_false, Bool.and_false,
      Bool.false_eq_true, h0, h0', h1, h1', decide_true, Bool.and_self, if_true, h2]
  | @four b0 b1 b2 b3 h0 h0' h1 h1' h2 h3 =>
    have a1 : ¬ b0 < 0x80 := by omega
    have a2 : ¬ b0 ≤ 0xDF := by omega
    have a3 : ¬ b0 ≤ 0xEF := by omega
    simp only [List.cons_append, List.nil_append, decode, a1, if_false, a2, a3, decide_false, Bool.and_false,
      Bool.false_eq_true, h0, h0', h1, h1', decide_true, Bool.and_self, if_true, h2, h3]

/-- **Round trip**: the bytes of a text decode to the text, and decoding ends at end of input. -/
theorem decode_encode (rs : List Rune) (h : ∀ r ∈ rs, Scalar r) :
    ∀ fuel, rs.length ≤ fuel → decode fuel (encode rs) = (rs, .eof) := by
  induction rs with
  | nil => intro fuel _; cases fuel <;> simp [encode, decode]
  | cons r rs ih =>
    intro fuel hf
    cases fuel with
    | zero => simp at hf
    | succ n =>
      have hr : Scalar r := h r (List.mem_cons_self)
      have hrs : ∀ x ∈ rs, Scalar x := fun x hx => h x (List.mem_cons_of_mem _ hx)
      have e : encode (r :: rs) = encodeRune r ++ encode rs := by simp [encode]
      rw [e, decode_enc (encodeRune_enc hr), ih hrs n (by simpa using hf)]

/-- the number of bytes `Retract` has to give back for a rune: 1 to 4 -/
theorem encodeRune_length (r : Nat) : 1 ≤ (encodeRune r).length ∧ (encodeRune r).length ≤ 4 := by
  unfold encodeRune
  split
  · simp
  · split
    · simp
    · split <;> simp

/-- no NUL byte in the encoding of a text without U+0000 (the emitted reader reserves NUL as its sentinel) -/
theorem encodeRune_nul_free (r : Nat) (h : r ≠ 0) : ∀ b ∈ encodeRune r, b ≠ 0 := by
  unfold encodeRune
  split
  · intro b hb; simp at hb; omega
  · split
    · intro b hb; simp at hb; omega
    · split <;> (intro b hb; simp at hb; omega)

end Emerge.Utf8
