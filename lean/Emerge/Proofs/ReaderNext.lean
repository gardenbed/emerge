import Emerge.ReaderNext
import Emerge.Proofs.Reader
import Emerge.Proofs.Utf8
/-
  The emitted `Next` over the two-half reader returns the rune whose UTF-8 encoding lies at the cursor and advances the
  cursor by its length - for every half size and alignment (the bytes of one rune may straddle a reload).
-/
namespace Emerge.Reader
open Emerge

/-- one more byte below the end of the source, in terms of the stream state -/
theorem withByte_lt {src len n} {s : RState} {a : AState} {g : Ghost} (h : Inv2 src len n s a g) (hk : a.k < len) :
    ∃ s' g', (∀ K, withByte src len n s K = K (src a.k) s') ∧ Inv2 src len n s' ⟨a.k + 1, a.p - 1, a.kb⟩ g' := by
  obtain ⟨s', g', e, hinv⟩ := next_lt h hk
  exact ⟨s', g', fun K => by simp only [withByte, e], hinv⟩

/-- **`Next` returns the rune at the cursor.** If a byte sequence that UTF-8 decoding takes for the rune `r` lies in the
    source at the cursor, `Next` returns `r` with the length of the sequence and leaves the reader at the cursor behind
    it. -/
theorem nextRune_enc {src len n} {s : RState} {a : AState} {g : Ghost} (h : Inv2 src len n s a g) {bs : List Nat} {r : Nat}
    (he : Utf8.Enc bs r) (hfit : a.k + bs.length ≤ len) (hat : ∀ i, i < bs.length → src (a.k + i) = bs.getD i 0) :
    ∃ g', (nextRune src len n s).1 = .rune r bs.length ∧
      Inv2 src len n (nextRune src len n s).2 ⟨a.k + bs.length, a.p - bs.length, a.kb⟩ g' := by
  cases he with
  | one h0 =>
    have e0 : src a.k = r := hat 0 (by simp)
    obtain ⟨s1, g1, w1, i1⟩ := withByte_lt h (Nat.lt_of_succ_le hfit)
    simp only [nextRune, w1, e0, h0, if_true]
    exact ⟨g1, rfl, i1⟩
  | @two b0 b1 h0 h0' h1 =>
    have e0 : src a.k = b0 := hat 0 (by simp)
    have e1 : src (a.k + 1) = b1 := hat 1 (by simp)
    obtain ⟨s1, g1, w1, i1⟩ := withByte_lt h (show a.k < len by simp at hfit; omega)
    obtain ⟨s2, g2, w2, i2⟩ := withByte_lt i1 (show a.k + 1 < len by simp at hfit; omega)
    have a1 : ¬ b0 < 0x80 := by omega
    simp only [nextRune, w1, w2, e0, e1, a1, if_false, h0, h0', and_self, if_true, h1]
    exact ⟨g2, rfl, i2⟩
  | @three b0 b1 b2 h0 h0' h1 h1' h2 =>
    have e0 : src a.k = b0 := hat 0 (by simp)
    have e1 : src (a.k + 1) = b1 := hat 1 (by simp)
    have e2 : src (a.k + 1 + 1) = b2 := hat 2 (by simp)
    obtain ⟨s1, g1, w1, i1⟩ := withByte_lt h (show a.k < len by simp at hfit; omega)
    obtain ⟨s2, g2, w2, i2⟩ := withByte_lt i1 (show a.k + 1 < len by simp at hfit; omega)
    obtain ⟨s3, g3, w3, i3⟩ := withByte_lt i2 (show a.k + 1 + 1 < len by simp at hfit; omega)
    have a1 : ¬ b0 < 0x80 := by omega
    have a2 : ¬ b0 ≤ 0xDF := by omega
    simp only [nextRune, w1, w2, w3, e0, e1, e2, a1, if_false, a2, and_false, h0, h0', h1, h1', and_self, if_true, h2]
    exact ⟨g3, rfl, i3⟩
  | @four b0 b1 b2 b3 h0 h0' h1 h1' h2 h3 =>
    have e0 : src a.k = b0 := hat 0 (by simp)
    have e1 : src (a.k + 1) = b1 := hat 1 (by simp)
    have e2 : src (a.k + 1 + 1) = b2 := hat 2 (by simp)
    have e3 : src (a.k + 1 + 1 + 1) = b3 := hat 3 (by simp)
    obtain ⟨s1, g1, w1, i1⟩ := withByte_lt h (show a.k < len by simp at hfit; omega)
    obtain ⟨s2, g2, w2, i2⟩ := withByte_lt i1 (show a.k + 1 < len by simp at hfit; omega)
    obtain ⟨s3, g3, w3, i3⟩ := withByte_lt i2 (show a.k + 1 + 1 < len by simp at hfit; omega)
    obtain ⟨s4, g4, w4, i4⟩ := withByte_lt i3 (show a.k + 1 + 1 + 1 < len by simp at hfit; omega)
    have a1 : ¬ b0 < 0x80 := by omega
    have a2 : ¬ b0 ≤ 0xDF := by omega
    have a3 : ¬ b0 ≤ 0xEF := by omega
    simp only [nextRune, w1, w2, w3, w4, e0, e1, e2, e3, a1, if_false, a2, a3, and_false, h0, h0', h1, h1', and_self,
      if_true, h2, h3]
    exact ⟨g4, rfl, i4⟩

end Emerge.Reader
