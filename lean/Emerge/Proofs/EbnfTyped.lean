import Emerge.EbnfTyped
import Emerge.Proofs.EbnfEval
/-
  The typed right-hand side that `ast.Parse` builds for a source right-hand side, and its meaning: flattening
  juxtapositions and alternations into n-ary nodes and dropping parentheses keeps the operands in order and
  the meaning intact.
-/
namespace Emerge.Props.C11
open Emerge Emerge.Ebnf Emerge.EbnfTyped Emerge.Props.C01

/-- the typed actions 23–31 over the tree of a right-hand side -/
def build : Rhs → TRhs
  | .term a => .term a
  | .nonterm A => .nonterm A
  | .cat l r => .concat (opsC (build l) ++ opsC (build r))
  | .alt l r => .alt (opsA (build l) ++ opsA (build r))
  | .altEmpty l => .alt (opsA (build l) ++ [.empty])
  | .op .group x => build x
  | .op .opt x => .opt (build x)
  | .op .star x => .star (build x)
  | .op .plus x => .plus (build x)

mutual
/-- the meaning of a typed right-hand side -/
def denoteT (env : String → Lang) : TRhs → Lang
  | .term a => fun w => w = [a]
  | .nonterm A => env A
  | .empty => Lang.eps
  | .concat ops => denoteCat env ops
  | .alt ops => denoteAlt env ops
  | .opt x => fun w => denoteT env x w ∨ w = []
  | .star x => Star (denoteT env x)
  | .plus x => Plus (denoteT env x)
def denoteCat (env : String → Lang) : List TRhs → Lang
  | [] => Lang.eps
  | x :: xs => Lang.cat (denoteT env x) (denoteCat env xs)
def denoteAlt (env : String → Lang) : List TRhs → Lang
  | [] => fun _ => False
  | x :: xs => Lang.union (denoteT env x) (denoteAlt env xs)
end

theorem denoteCat_append (env : String → Lang) (a b : List TRhs) :
    denoteCat env (a ++ b) = (denoteCat env a).cat (denoteCat env b) := by
  induction a with
  | nil => exact (Lang.eps_cat _).symm
  | cons x a ih => simp only [List.cons_append, denoteCat, ih, Lang.cat_assoc]

theorem denoteAlt_append (env : String → Lang) (a b : List TRhs) :
    denoteAlt env (a ++ b) = (denoteAlt env a).union (denoteAlt env b) := by
  apply Lang.ext; intro w
  induction a with
  | nil => simp only [List.nil_append, denoteAlt, Lang.union, false_or]
  | cons x a ih => simp only [List.cons_append, denoteAlt, Lang.union, ih, or_assoc]

/-- splicing the operands of a concatenation keeps its meaning -/
theorem denoteCat_opsC (env : String → Lang) (t : TRhs) : denoteCat env (opsC t) = denoteT env t := by
  cases t <;> simp only [opsC, denoteCat, denoteT, Lang.cat_eps]

theorem denoteAlt_singleton (env : String → Lang) (t : TRhs) : denoteAlt env [t] = denoteT env t := by
  apply Lang.ext; intro w
  simp only [denoteAlt, Lang.union, or_false]

theorem denoteAlt_opsA (env : String → Lang) (t : TRhs) : denoteAlt env (opsA t) = denoteT env t := by
  cases t <;> simp only [opsA, denoteAlt_singleton, denoteT]

/-- `build_denote` with the languages compared as languages -/
theorem denoteT_build (env : String → Lang) (r : Rhs) : denoteT env (build r) = denote env r := by
  induction r with
  | term a => rfl
  | nonterm A => rfl
  | cat l r ihl ihr => simp only [build, denoteT, denote, denoteCat_append, denoteCat_opsC, ihl, ihr]
  | alt l r ihl ihr => simp only [build, denoteT, denote, denoteAlt_append, denoteAlt_opsA, ihl, ihr]
  | altEmpty l ihl => simp only [build, denoteT, denote, denoteAlt_append, denoteAlt_opsA, denoteAlt_singleton, ihl]
  | op k x ihx => cases k <;> simp only [build, denoteT, denote, shapeLang, ihx]

/-- **The typed tree means what the source means**: the right-hand side `ast.Parse` builds (flattened, parentheses
    dropped) has the documented meaning of the right-hand side as written. -/
theorem build_denote (env : String → Lang) : ∀ (r : Rhs) (w : List String), denoteT env (build r) w ↔ denote env r w :=
  fun r w => iff_of_eq (congrFun (denoteT_build env r) w)

/-! ### `build` is `typedAction`, case by case -/

theorem typed_term (pd : List (String × String)) (a : String) : typedAction pd 31 [.str a] = .ok (.rhs (build (.term a))) := rfl
theorem typed_nonterm (pd : List (String × String)) (A : String) : typedAction pd 30 [.str A] = .ok (.rhs (build (.nonterm A))) := rfl
theorem typed_cat (pd : List (String × String)) (l r : Rhs) :
    typedAction pd 23 [.rhs (build l), .rhs (build r)] = .ok (.rhs (build (.cat l r))) := rfl
theorem typed_alt (pd : List (String × String)) (l r : Rhs) (x : TVal) :
    typedAction pd 28 [.rhs (build l), x, .rhs (build r)] = .ok (.rhs (build (.alt l r))) := rfl
theorem typed_altEmpty (pd : List (String × String)) (l : Rhs) (x : TVal) :
    typedAction pd 29 [.rhs (build l), x] = .ok (.rhs (build (.altEmpty l))) := rfl
theorem typed_group (pd : List (String × String)) (r : Rhs) (x y : TVal) :
    typedAction pd 24 [x, .rhs (build r), y] = .ok (.rhs (build (.op .group r))) := rfl
theorem typed_opt (pd : List (String × String)) (r : Rhs) (x y : TVal) :
    typedAction pd 25 [x, .rhs (build r), y] = .ok (.rhs (build (.op .opt r))) := rfl
theorem typed_star (pd : List (String × String)) (r : Rhs) (x y : TVal) :
    typedAction pd 26 [x, .rhs (build r), y] = .ok (.rhs (build (.op .star r))) := rfl
theorem typed_plus (pd : List (String × String)) (r : Rhs) (x y : TVal) :
    typedAction pd 27 [x, .rhs (build r), y] = .ok (.rhs (build (.op .plus r))) := rfl

/-! ### the atoms of the source, in source order -/

/-- terminals and non-terminals of a right-hand side as written, left to right (an empty alternative counts as `ε`) -/
def atoms : Rhs → List (Bool × String)
  | .term a => [(true, a)]
  | .nonterm A => [(false, A)]
  | .cat l r => atoms l ++ atoms r
  | .alt l r => atoms l ++ atoms r
  | .altEmpty l => atoms l ++ [(true, "")]
  | .op _ x => atoms x

mutual
def atomsT : TRhs → List (Bool × String)
  | .term a => [(true, a)]
  | .nonterm A => [(false, A)]
  | .empty => [(true, "")]
  | .concat ops => atomsList ops
  | .alt ops => atomsList ops
  | .opt x => atomsT x
  | .star x => atomsT x
  | .plus x => atomsT x
def atomsList : List TRhs → List (Bool × String)
  | [] => []
  | x :: xs => atomsT x ++ atomsList xs
end

theorem atomsList_append (a b : List TRhs) : atomsList (a ++ b) = atomsList a ++ atomsList b := by
  induction a with
  | nil => rfl
  | cons x a ih => simp [atomsList, ih]

theorem atomsList_opsC (t : TRhs) : atomsList (opsC t) = atomsT t := by
  cases t <;> simp [opsC, atomsList, atomsT]

theorem atomsList_opsA (t : TRhs) : atomsList (opsA t) = atomsT t := by
  cases t <;> simp [opsA, atomsList, atomsT]

/-- **Operand order**: the typed tree has the atoms of the source in the order of the source - flattening and dropping
    parentheses move nothing. -/
theorem build_atoms : ∀ r : Rhs, atomsT (build r) = atoms r := by
  intro r
  induction r with
  | term a => rfl
  | nonterm A => rfl
  | cat l r ihl ihr => simp only [build, atomsT, atoms, atomsList_append, atomsList_opsC, ihl, ihr]
  | alt l r ihl ihr => simp only [build, atomsT, atoms, atomsList_append, atomsList_opsA, ihl, ihr]
  | altEmpty l ihl => simp [build, atomsT, atoms, atomsList_append, atomsList_opsA, ihl, atomsList]
  | op k x ihx => cases k <;> simp only [build, atomsT, atoms, ihx]

end Emerge.Props.C11
