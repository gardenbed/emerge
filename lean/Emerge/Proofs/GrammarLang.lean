import Emerge.Ebnf
/-
  Languages of grammar symbol strings, the language of a non-terminal of a production list as the least fixed
  point (Kleene iteration) of "a word of A is a word of one of A's bodies", Kleene star/plus, and what a
  non-terminal with the productions of an operator's shape denotes.  Languages are predicates; equalities of
  languages are proved as equalities (`Lang.ext`), so that they rewrite.
-/
namespace Emerge.Props.C01
open Emerge Emerge.Ebnf

/-- languages over terminal names -/
abbrev Lang := List String → Prop

def Lang.cat (A B : Lang) : Lang := fun w => ∃ u v, w = u ++ v ∧ A u ∧ B v
def Lang.union (A B : Lang) : Lang := fun w => A w ∨ B w
def Lang.eps : Lang := fun w => w = []

theorem Lang.ext {A B : Lang} (h : ∀ w, A w ↔ B w) : A = B := funext fun w => propext (h w)

theorem Lang.eps_cat (A : Lang) : Lang.eps.cat A = A := by
  apply Lang.ext; intro w
  constructor
  · rintro ⟨u, v, rfl, rfl, h⟩; exact h
  · intro h; exact ⟨[], w, rfl, rfl, h⟩

theorem Lang.cat_eps (A : Lang) : A.cat Lang.eps = A := by
  apply Lang.ext; intro w
  constructor
  · rintro ⟨u, v, rfl, h, rfl⟩; rwa [List.append_nil]
  · intro h; exact ⟨w, [], (List.append_nil w).symm, h, rfl⟩

theorem Lang.cat_assoc (A B C : Lang) : (A.cat B).cat C = A.cat (B.cat C) := by
  apply Lang.ext; intro w
  constructor
  · rintro ⟨_, v, rfl, ⟨u1, u2, rfl, h1, h2⟩, hv⟩
    exact ⟨u1, u2 ++ v, List.append_assoc .., h1, u2, v, rfl, h2, hv⟩
  · rintro ⟨u, _, rfl, hu, v1, v2, rfl, h1, h2⟩
    exact ⟨u ++ v1, v2, (List.append_assoc ..).symm, ⟨u, v1, rfl, hu, h1⟩, h2⟩

/-- language of a string of grammar symbols, given the languages of the non-terminals -/
def langString (env : String → Lang) : GString → Lang
  | [] => Lang.eps
  | .t a :: rest => Lang.cat (fun w => w = [a]) (langString env rest)
  | .nt A :: rest => Lang.cat (env A) (langString env rest)

/-- language of a list of alternatives -/
def langStrings (env : String → Lang) (s : Strings) : Lang := fun w => ∃ α ∈ s, langString env α w

theorem langString_append (env : String → Lang) (α β : GString) :
    langString env (α ++ β) = (langString env α).cat (langString env β) := by
  induction α with
  | nil => exact (Lang.eps_cat _).symm
  | cons x α ih => cases x <;> simp only [List.cons_append, langString, ih, Lang.cat_assoc]

theorem langString_t (env : String → Lang) (a : String) : langString env [.t a] = fun w => w = [a] := Lang.cat_eps _

theorem langString_nt (env : String → Lang) (A : String) : langString env [.nt A] = env A := Lang.cat_eps _

/-! ### the `Strings` algebra -/

/-- the language of a list of alternatives depends on the list as a set only -/
theorem langStrings_congr (env : String → Lang) {s1 s2 : Strings} (h : ∀ α, α ∈ s1 ↔ α ∈ s2) :
    langStrings env s1 = langStrings env s2 := by
  apply Lang.ext; intro w
  simp only [langStrings, h]

theorem langStrings_singleton (env : String → Lang) (α : GString) : langStrings env [α] = langString env α := by
  apply Lang.ext; intro w
  simp only [langStrings, List.mem_singleton, exists_eq_left]

theorem langStrings_append (env : String → Lang) (s1 s2 : Strings) :
    langStrings env (s1 ++ s2) = (langStrings env s1).union (langStrings env s2) := by
  apply Lang.ext; intro w
  simp only [langStrings, Lang.union, List.mem_append, or_and_right, exists_or]

theorem langStrings_juxtapose (env : String → Lang) (s1 s2 : Strings) :
    langStrings env (s1.flatMap fun α => s2.map fun β => α ++ β) = (langStrings env s1).cat (langStrings env s2) := by
  apply Lang.ext; intro w
  simp only [langStrings, List.mem_flatMap, List.mem_map]
  constructor
  · rintro ⟨_, ⟨α, hα, β, hβ, rfl⟩, hw⟩
    rw [langString_append] at hw
    obtain ⟨u, v, rfl, hu, hv⟩ := hw
    exact ⟨u, v, rfl, ⟨α, hα, hu⟩, ⟨β, hβ, hv⟩⟩
  · rintro ⟨u, v, rfl, ⟨α, hα, hu⟩, ⟨β, hβ, hv⟩⟩
    refine ⟨α ++ β, ⟨α, hα, β, hβ, rfl⟩, ?_⟩
    rw [langString_append]
    exact ⟨u, v, rfl, hu, hv⟩

/-! ### the language of a non-terminal -/

/-- the bodies of `A` -/
def alts (P : List GProd) (A : String) : Strings := (P.filter (fun p => p.head == A)).map (·.body)

theorem mem_alts {P : List GProd} {A : String} {α : GString} : α ∈ alts P A ↔ ⟨A, α⟩ ∈ P := by
  simp only [alts, List.mem_map, List.mem_filter, beq_iff_eq]
  constructor
  · rintro ⟨p, ⟨hp, rfl⟩, rfl⟩; exact hp
  · intro h; exact ⟨⟨A, α⟩, ⟨h, rfl⟩, rfl⟩

/-- words derivable with derivation trees of height ≤ n -/
def genN (P : List GProd) : Nat → String → Lang
  | 0, _ => fun _ => False
  | n + 1, A => langStrings (genN P n) (alts P A)

/-- the language of a non-terminal -/
def L (P : List GProd) (A : String) : Lang := fun w => ∃ n, genN P n A w

theorem langString_mono {e1 e2 : String → Lang} (h : ∀ A w, e1 A w → e2 A w) :
    ∀ (α : GString) (w : List String), langString e1 α w → langString e2 α w := by
  intro α
  induction α with
  | nil => intro w hw; exact hw
  | cons x α ih =>
    intro w hw
    cases x <;> obtain ⟨u, v, rfl, hu, hv⟩ := hw
    · exact ⟨u, v, rfl, hu, ih v hv⟩
    · exact ⟨u, v, rfl, h _ u hu, ih v hv⟩

theorem langStrings_mono {e1 e2 : String → Lang} (h : ∀ A w, e1 A w → e2 A w) (s : Strings) (w : List String) :
    langStrings e1 s w → langStrings e2 s w := by
  rintro ⟨α, hα, hw⟩; exact ⟨α, hα, langString_mono h α w hw⟩

theorem genN_succ (P : List GProd) : ∀ n A w, genN P n A w → genN P (n + 1) A w := by
  intro n
  induction n with
  | zero => intro A w h; exact h.elim
  | succ n ih => intro A w h; exact langStrings_mono ih _ _ h

theorem genN_le (P : List GProd) {n m : Nat} (h : n ≤ m) : ∀ A w, genN P n A w → genN P m A w := by
  induction h with
  | refl => intro A w h; exact h
  | step _ ih => intro A w h; exact genN_succ P _ A w (ih A w h)

theorem genN_L (P : List GProd) (n : Nat) : ∀ A w, genN P n A w → L P A w := fun _ _ h => ⟨n, h⟩

/-- a word of a symbol string under the limit is already one at some finite stage -/
theorem langString_L (P : List GProd) : ∀ (α : GString) (w : List String),
    langString (L P) α w → ∃ n, langString (genN P n) α w := by
  intro α
  induction α with
  | nil => intro w hw; exact ⟨0, hw⟩
  | cons x α ih =>
    intro w hw
    cases x <;> obtain ⟨u, v, rfl, hu, hv⟩ := hw <;> obtain ⟨n, hn⟩ := ih v hv
    · exact ⟨n, u, v, rfl, hu, hn⟩
    · obtain ⟨m, hm⟩ := hu
      refine ⟨max m n, u, v, rfl, genN_le P (Nat.le_max_left m n) _ u hm, ?_⟩
      exact langString_mono (genN_le P (Nat.le_max_right m n)) α v hn

/-- **Fixed point**: a word of `A` is a word of one of `A`'s bodies, read in the same languages. -/
theorem L_fix (P : List GProd) (A : String) : L P A = langStrings (L P) (alts P A) := by
  apply Lang.ext; intro w
  constructor
  · rintro ⟨n, hn⟩
    cases n with
    | zero => exact hn.elim
    | succ n => exact langStrings_mono (genN_L P n) _ _ hn
  · rintro ⟨α, hα, hw⟩
    obtain ⟨n, hn⟩ := langString_L P α w hw
    exact ⟨n + 1, α, hα, hn⟩

/-- **Least**: any interpretation closed under the productions contains the languages. -/
theorem L_least (P : List GProd) (env : String → Lang)
    (hclosed : ∀ A w, langStrings env (alts P A) w → env A w) : ∀ A w, L P A w → env A w := by
  have : ∀ n A w, genN P n A w → env A w := by
    intro n
    induction n with
    | zero => intro A w h; exact h.elim
    | succ n ih => intro A w h; exact hclosed A w (langStrings_mono ih _ _ h)
  rintro A w ⟨n, hn⟩; exact this n A w hn

/-- a non-terminal whose bodies are the list `s` denotes the language of `s` -/
theorem L_eq_of_bodies (P : List GProd) (N : String) (s : Strings) (h : ∀ β, ⟨N, β⟩ ∈ P ↔ β ∈ s) :
    L P N = langStrings (L P) s := by
  rw [L_fix]; exact langStrings_congr _ fun β => mem_alts.trans (h β)

/-! ### Kleene star and plus of a language -/

inductive Star (A : Lang) : Lang
  | nil : Star A []
  | cons (u v : List String) : A u → Star A v → Star A (u ++ v)

theorem Star.snoc {A : Lang} {u : List String} (hu : Star A u) : ∀ {v}, A v → Star A (u ++ v) := by
  induction hu with
  | nil => intro v hv; simpa using Star.cons v [] hv Star.nil
  | cons a b ha _ ih => intro v hv; rw [List.append_assoc]; exact Star.cons a (b ++ v) ha (ih hv)

/-- one or more -/
def Plus (A : Lang) : Lang := fun w => ∃ u v, w = u ++ v ∧ A u ∧ Star A v

theorem Plus.of_star_snoc {A : Lang} {u v : List String} (hu : Star A u) (hv : A v) : Plus A (u ++ v) := by
  cases hu with
  | nil => exact ⟨v, [], by simp, hv, Star.nil⟩
  | cons a b ha hb => exact ⟨a, b ++ v, by simp, ha, hb.snoc hv⟩

theorem langString_prepend (env : String → Lang) (N : String) (α : GString) (w : List String) :
    langString env (prepend N α) w ↔ ∃ u v, w = u ++ v ∧ env N u ∧ langString env α v := Iff.rfl

/-! ### what the synthesised production shapes denote -/

/-- **A left-recursive non-terminal** `N → N α | β` (`α` from `s`, `β` from `b`) denotes a word of `b` followed by any
    number of words of `s` - the languages of `s` and `b` read in the same least fixed point. -/
theorem lang_leftrec (P : List GProd) (N : String) (s b : Strings)
    (hshape : ∀ β, ⟨N, β⟩ ∈ P ↔ (∃ α ∈ s, β = prepend N α) ∨ β ∈ b) :
    L P N = (langStrings (L P) b).cat (Star (langStrings (L P) s)) := by
  apply Lang.ext; intro w
  constructor
  · rintro ⟨n, hn⟩
    induction n generalizing w with
    | zero => exact hn.elim
    | succ n ih =>
      obtain ⟨β, hβ, hw⟩ := hn
      rcases (hshape β).mp (mem_alts.mp hβ) with ⟨α, hα, rfl⟩ | hb
      · obtain ⟨u, v, rfl, hu, hv⟩ := hw
        obtain ⟨x, y, rfl, hx, hy⟩ := ih u hu
        exact ⟨x, y ++ v, List.append_assoc .., hx, hy.snoc ⟨α, hα, langString_mono (genN_L P n) α v hv⟩⟩
      · exact ⟨w, [], (List.append_nil w).symm, ⟨β, hb, langString_mono (genN_L P n) β w hw⟩, Star.nil⟩
  · rintro ⟨u, v, rfl, ⟨β, hβ, hu⟩, hv⟩
    have first : L P N u := by
      rw [L_fix]; exact ⟨β, mem_alts.mpr ((hshape β).mpr (Or.inr hβ)), hu⟩
    -- the star is consumed from the left: each of its words extends the word of `N` read so far by `N → N α`
    clear hu
    induction hv generalizing u with
    | nil => rwa [List.append_nil]
    | cons a c ha _ ih =>
      obtain ⟨α, hα, ha⟩ := ha
      rw [← List.append_assoc]
      apply ih
      rw [L_fix]
      exact ⟨prepend N α, mem_alts.mpr ((hshape _).mpr (Or.inl ⟨α, hα, rfl⟩)), u, a, rfl, first, ha⟩

/-- the bodies an operator of kind `k` gives its non-terminal `n` for the operand `s` -/
def ShapeMem (k : Kind) (n : String) (s : Strings) (β : GString) : Prop :=
  match k with
  | .group => β ∈ s
  | .opt => β ∈ s ∨ β = []
  | .star => (∃ α ∈ s, β = prepend n α) ∨ β = []
  | .plus => (∃ α ∈ s, β = prepend n α) ∨ β ∈ s

/-- the language the shape of kind `k` denotes -/
def shapeLang (k : Kind) (A : Lang) : Lang :=
  match k with
  | .group => A
  | .opt => fun w => A w ∨ w = []
  | .star => Star A
  | .plus => Plus A

/-- **The operators mean what the documentation says**: in a production list in which `n` has exactly the bodies of
    the shape of kind `k` for the operand `s`, `n` denotes `⟦s⟧`, `⟦s⟧ ∪ ε`, `⟦s⟧*`, `⟦s⟧⁺`. -/
theorem lang_operator (P : List GProd) (k : Kind) (n : String) (s : Strings)
    (hshape : ∀ β, ⟨n, β⟩ ∈ P ↔ ShapeMem k n s β) : L P n = shapeLang k (langStrings (L P) s) := by
  cases k with
  | group => exact L_eq_of_bodies P n s hshape
  | opt =>
    have hb : ∀ β, ⟨n, β⟩ ∈ P ↔ β ∈ s ++ [[]] := fun β => by
      rw [List.mem_append, List.mem_singleton]; exact hshape β
    rw [L_eq_of_bodies P n _ hb, langStrings_append, langStrings_singleton]
    rfl
  | star =>
    have hb : ∀ β, ⟨n, β⟩ ∈ P ↔ (∃ α ∈ s, β = prepend n α) ∨ β ∈ [[]] := fun β => by
      rw [List.mem_singleton]; exact hshape β
    rw [lang_leftrec P n s _ hb, langStrings_singleton]
    exact Lang.eps_cat _
  | plus => exact lang_leftrec P n s s hshape

end Emerge.Props.C01
