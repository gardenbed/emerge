import Emerge.Proofs.Follow2
/-
  `ToDFA` (before `Minimize`): the worklist loop is the subset construction of the position automaton.

  * `mem_stepSet`: the set `U` computed for a state and a symbol, as a set;
  * `addSym_spec`, `Explored`: what one step of the loop does, and what the loop keeps true;
  * `explore_spec`: whatever the loop returns is closed - state 0 is `firstPos(root)`, and every state has, for every
    input symbol, a transition to a state that is `U` as a set (and no transition on anything else);
  * `run_spec`, `run_none`, `accepts_iff`: the automaton's run on a word over the input symbols ends in the state that is
    the set reached by the set-level run, and stops on any other word;
  * `enters_iff`: the set-level run holds exactly the positions that can be entered after a marked word spelling the input;
  * `dfa_language`: the automaton accepts `w` iff `w` is in the language of the pattern (the tree without its end marker).
  Core Lean only.
-/
namespace Emerge.Props.C10
open Emerge Emerge.Regex Emerge.Regex.Follow

/-! ### sets of positions -/

def SetEq (a b : Poses) : Prop := ∀ x, x ∈ a ↔ x ∈ b

theorem SetEq.refl (a : Poses) : SetEq a a := fun _ => Iff.rfl
theorem SetEq.symm {a b : Poses} (h : SetEq a b) : SetEq b a := fun x => (h x).symm
theorem SetEq.trans {a b c : Poses} (h1 : SetEq a b) (h2 : SetEq b c) : SetEq a c := fun x => (h1 x).trans (h2 x)

theorem equal_iff (a b : Poses) : Poses.equal a b = true ↔ SetEq a b := by
  simp only [Poses.equal, SetEq, Bool.and_eq_true, List.all_eq_true, List.contains_iff_mem]
  exact ⟨fun h x => ⟨h.1 x, h.2 x⟩, fun h => ⟨fun x => (h x).mp, fun x => (h x).mpr⟩⟩

/-- **`U` as a set**: the followers of the positions of `S` that carry `c`. -/
theorem mem_stepSet (t : Tree) (S : Poses) (c : Rune) (q : Nat) :
    q ∈ stepSet t S c ↔ ∃ p ∈ S, t.charAt p = some c ∧ q ∈ t.follows.get p := by
  unfold stepSet
  rw [mem_foldl_insert (new := fun p => if t.charAt p = some c then t.follows.get p else [])]
  · simp only [List.not_mem_nil, false_or, List.mem_ite_nil_right]
  · intro u p y
    split <;> simp [mem_union]

theorem stepSet_congr (t : Tree) {S S' : Poses} (h : SetEq S S') (c : Rune) : SetEq (stepSet t S c) (stepSet t S' c) := by
  intro q
  simp only [mem_stepSet, h _]

/-! ### `findState`, `lookup` -/

theorem findState_eq (states : List Poses) (U : Poses) : findState states U = states.findIdx? (Poses.equal · U) := by
  induction states with
  | nil => rfl
  | cons S rest ih => rw [findState, List.findIdx?_cons, ih]

theorem findState_some {states : List Poses} {U : Poses} {j : Nat} (h : findState states U = some j) :
    ∃ S, states[j]? = some S ∧ SetEq S U := by
  obtain ⟨hj, he, -⟩ := List.findIdx?_eq_some_iff_getElem.mp (findState_eq states U ▸ h)
  exact ⟨states[j], List.getElem?_eq_getElem hj, (equal_iff _ _).mp he⟩

theorem findState_none {states : List Poses} {U : Poses} (h : findState states U = none) : ∀ S ∈ states, ¬ SetEq S U := by
  intro S hS he
  have := List.findIdx?_eq_none_iff.mp (findState_eq states U ▸ h) S hS
  rw [(equal_iff S U).mpr he] at this
  cases this

theorem lookup_append (tr tr' : Trans) (k : Nat) (d : Rune) :
    lookup (tr ++ tr') k d = (lookup tr k d).or (lookup tr' k d) := by
  simp only [lookup, List.find?_append, Option.map_or]

theorem lookup_cons_self (k : Nat) (d : Rune) (j : Nat) (tr : Trans) : lookup ((k, d, j) :: tr) k d = some j := by
  simp [lookup]

theorem lookup_sym {tr : Trans} {k : Nat} {d : Rune} {j : Nat} (h : lookup tr k d = some j) : ∃ e ∈ tr, e.1 = k ∧ e.2.1 = d ∧ e.2.2 = j := by
  obtain ⟨e, he, hj⟩ := Option.map_eq_some_iff.mp h
  have hp := List.find?_some he
  simp only [decide_eq_true_eq] at hp
  exact ⟨e, List.mem_of_find?_eq_some he, hp.1, hp.2, hj⟩

/-! ### the invariant of the loop -/

/-- the state `k` has its transition on `c`: to a state that is `U` as a set -/
def Covered (t : Tree) (states : List Poses) (tr : Trans) (k : Nat) (c : Rune) : Prop :=
  ∃ S j S', states[k]? = some S ∧ lookup tr k c = some j ∧ states[j]? = some S' ∧ SetEq S' (stepSet t S c)

theorem Covered.mono {t : Tree} {states : List Poses} {tr : Trans} {k : Nat} {c : Rune}
    (h : Covered t states tr k c) (more : List Poses) (tr' : Trans) : Covered t (states ++ more) (tr ++ tr') k c := by
  obtain ⟨S, j, S', h1, h2, h3, h4⟩ := h
  exact ⟨S, j, S', getElem?_append_of_some h1 more, by rw [lookup_append, h2, Option.some_or], getElem?_append_of_some h3 more, h4⟩

theorem Covered.mono_states {t : Tree} {states : List Poses} {tr : Trans} {k : Nat} {c : Rune}
    (h : Covered t states tr k c) (more : List Poses) : Covered t (states ++ more) tr k c := by
  simpa using h.mono more []

/-- **What one step of the loop does**: it adds one transition, to a state that is `U` as a set; that state is found
    among the old ones, or it is `U` itself, added at the end, and no old state was `U` as a set. -/
theorem addSym_spec (t : Tree) (S : Poses) (i : Nat) (acc : List Poses × Trans) (c : Rune) :
    ∃ j more U, addSym t S i acc c = (acc.1 ++ more, acc.2 ++ [(i, c, j)]) ∧
      (acc.1 ++ more)[j]? = some U ∧ SetEq U (stepSet t S c) ∧
      (more = [] ∨ more = [stepSet t S c] ∧ ∀ S' ∈ acc.1, ¬ SetEq S' (stepSet t S c)) := by
  cases hf : findState acc.1 (stepSet t S c) with
  | some j =>
    obtain ⟨U, hj, hU⟩ := findState_some hf
    exact ⟨j, [], U, by simp [addSym, hf], by simpa using hj, hU, Or.inl rfl⟩
  | none =>
    exact ⟨acc.1.length, [stepSet t S c], _, by simp [addSym, hf], by simp, SetEq.refl _, Or.inr ⟨rfl, findState_none hf⟩⟩

/-- the invariant of the loop: exactly the pairs (state, symbol) in `D` have been dealt with - each has its transition, to
    the right state, and no other pair has one -/
structure Explored (t : Tree) (D : Nat → Rune → Prop) (acc : List Poses × Trans) : Prop where
  first : acc.1[0]? = some t.root.firstPos
  cov : ∀ k c, D k c → Covered t acc.1 acc.2 k c
  src : ∀ e ∈ acc.2, D e.1 e.2.1

section
variable {t : Tree} {D : Nat → Rune → Prop} {acc : List Poses × Trans} {i : Nat} {S : Poses}

theorem Explored.congr {D' : Nat → Rune → Prop} (h : Explored t D acc) (hD : ∀ k c, D k c ↔ D' k c) : Explored t D' acc :=
  ⟨h.first, fun k c hd => h.cov k c ((hD k c).mpr hd), fun e he => (hD _ _).mp (h.src e he)⟩

theorem Explored.step (h : Explored t D acc) (hS : acc.1[i]? = some S) (c : Rune) :
    Explored t (fun k d => D k d ∨ (k = i ∧ d = c)) (addSym t S i acc c) := by
  obtain ⟨j, more, U, e, hj, hU, -⟩ := addSym_spec t S i acc c
  rw [e]
  refine ⟨getElem?_append_of_some h.first more, ?_, ?_⟩
  · rintro k d (hd | ⟨rfl, rfl⟩)
    · exact (h.cov k d hd).mono more _
    · cases hl : lookup acc.2 k d with
      | some j0 =>
        -- the symbol occurs twice in the list: the earlier transition stays in force
        obtain ⟨a, ha, rfl, rfl, -⟩ := lookup_sym hl
        exact (h.cov _ _ (h.src a ha)).mono more _
      | none =>
        exact ⟨S, j, U, getElem?_append_of_some hS more, by rw [lookup_append, hl, Option.none_or, lookup_cons_self], hj, hU⟩
  · intro a ha
    rcases List.mem_append.mp ha with ha | ha
    · exact Or.inl (h.src a ha)
    · rw [List.mem_singleton.mp ha]; exact Or.inr ⟨rfl, rfl⟩

theorem Explored.fold (h : Explored t D acc) (hS : acc.1[i]? = some S) (cs : List Rune) :
    Explored t (fun k d => D k d ∨ (k = i ∧ d ∈ cs)) (cs.foldl (addSym t S i) acc) := by
  induction cs generalizing D acc with
  | nil => exact h.congr (by simp)
  | cons c cs ih =>
    have hS' : (addSym t S i acc c).1[i]? = some S := by
      obtain ⟨j, more, U, e, -⟩ := addSym_spec t S i acc c
      rw [e]; exact getElem?_append_of_some hS more
    exact (ih (h.step hS c) hS').congr (by simp only [List.mem_cons, or_assoc, and_or_left, implies_true])

end

/-- the invariant between two states -/
structure Outer (t : Tree) (symbols : List Rune) (i : Nat) (states : List Poses) (tr : Trans) : Prop where
  first : states[0]? = some t.root.firstPos
  old : ∀ k, k < i → ∀ c ∈ symbols, Covered t states tr k c
  syms : ∀ e ∈ tr, e.2.1 ∈ symbols
  src : ∀ e ∈ tr, e.1 < i

theorem Outer.init (t : Tree) (symbols : List Rune) : Outer t symbols 0 [t.root.firstPos] [] :=
  ⟨rfl, fun k hk => absurd hk (Nat.not_lt_zero k), fun _ he => (nomatch he), fun _ he => (nomatch he)⟩

theorem outer_iff {t : Tree} {symbols : List Rune} {i : Nat} {acc : List Poses × Trans} :
    Outer t symbols i acc.1 acc.2 ↔ Explored t (fun k c => k < i ∧ c ∈ symbols) acc :=
  ⟨fun h => ⟨h.first, fun k c hd => h.old k hd.1 c hd.2, fun e he => ⟨h.src e he, h.syms e he⟩⟩,
   fun h => ⟨h.first, fun k hk c hc => h.cov k c ⟨hk, hc⟩, fun e he => (h.src e he).2, fun e he => (h.src e he).1⟩⟩

/-- one round of the loop: the symbols of state `i` -/
theorem Outer.round {t : Tree} {symbols : List Rune} {i : Nat} {S : Poses} {acc : List Poses × Trans}
    (h : Outer t symbols i acc.1 acc.2) (hS : acc.1[i]? = some S) :
    Outer t symbols (i + 1) (symbols.foldl (addSym t S i) acc).1 (symbols.foldl (addSym t S i) acc).2 :=
  outer_iff.mpr (((outer_iff.mp h).fold hS symbols).congr fun k c => by rw [← or_and_right, Nat.lt_succ_iff_lt_or_eq])

/-- **The loop returns a closed automaton**: every state has its transition on every input symbol, to the state that is
    `U` as a set; there are no other transitions; state 0 is `firstPos(root)`. -/
theorem explore_spec (t : Tree) (symbols : List Rune) :
    ∀ (fuel i : Nat) (states : List Poses) (tr : Trans), Outer t symbols i states tr →
      ∀ r, explore t symbols fuel i states tr = some r →
        r.1[0]? = some t.root.firstPos ∧ (∀ k, k < r.1.length → ∀ c ∈ symbols, Covered t r.1 r.2 k c) ∧ (∀ e ∈ r.2, e.2.1 ∈ symbols) := by
  intro fuel i states tr
  fun_induction explore t symbols fuel i states tr with
  | case1 => intro _ r h; cases h
  | case2 fuel i states tr hS =>
    intro ho r h
    cases h
    have : states.length ≤ i := List.getElem?_eq_none_iff.mp hS
    exact ⟨ho.first, fun k hk => ho.old k (by simp only at hk; omega), ho.syms⟩
  | case3 fuel i states tr S hS r' ih =>
    intro ho r h
    exact ih (Outer.round (acc := (states, tr)) ho hS) r h

/-! ### runs -/

/-- the set-level run: `U` after `U` -/
def runS (t : Tree) : Poses → List Rune → Poses
  | S, [] => S
  | S, c :: w => runS t (stepSet t S c) w

theorem runS_congr (t : Tree) : ∀ (w : List Rune) {S S' : Poses}, SetEq S S' → SetEq (runS t S w) (runS t S' w)
  | [], _, _, h => h
  | c :: w, _, _, h => runS_congr t w (stepSet_congr t h c)

/-- **The automaton's run follows the set-level run** on words over the input symbols … -/
theorem run_spec (t : Tree) (symbols : List Rune) (states : List Poses) (tr : Trans)
    (hcov : ∀ k, k < states.length → ∀ c ∈ symbols, Covered t states tr k c) :
    ∀ (w : List Rune) (i : Nat) (S : Poses), states[i]? = some S → (∀ c ∈ w, c ∈ symbols) →
      ∃ j S', runD tr i w = some j ∧ states[j]? = some S' ∧ SetEq S' (runS t S w) := by
  intro w
  induction w with
  | nil => intro i S hi _; exact ⟨i, S, rfl, hi, SetEq.refl _⟩
  | cons c w ih =>
    intro i S hi hw
    obtain ⟨S0, j, S', h1, h2, h3, h4⟩ := hcov i (List.getElem?_eq_some_iff.mp hi).1 c (hw c List.mem_cons_self)
    obtain rfl : S = S0 := Option.some.inj (hi.symm.trans h1)
    obtain ⟨j', S'', a1, a2, a3⟩ := ih j S' h3 (fun d hd => hw d (List.mem_cons_of_mem _ hd))
    exact ⟨j', S'', by simpa only [runD, h2] using a1, a2, a3.trans (runS_congr t w h4)⟩

/-- … and stops on a character that is not an input symbol. -/
theorem run_none (symbols : List Rune) (tr : Trans) (hsym : ∀ e ∈ tr, e.2.1 ∈ symbols) :
    ∀ (w : List Rune) (i : Nat), (∃ c ∈ w, c ∉ symbols) → runD tr i w = none := by
  intro w i
  fun_induction runD tr i w with
  | case1 => rintro ⟨c, hc, _⟩; cases hc
  | case2 i d w j hl ih =>
    rintro ⟨c, hc, hn⟩
    obtain ⟨e, he, _, rfl, _⟩ := lookup_sym hl
    rcases List.mem_cons.mp hc with rfl | hc'
    · exact absurd (hsym e he) hn
    · exact ih ⟨c, hc', hn⟩
  | case3 => intro _; rfl

/-- **What a closed automaton accepts**: the words over its input symbols whose set-level run from `firstPos(root)`
    holds the position of the end marker. -/
theorem accepts_iff {t : Tree} {symbols : List Rune} {r : List Poses × Trans} (h0 : r.1[0]? = some t.root.firstPos)
    (hcov : ∀ k, k < r.1.length → ∀ c ∈ symbols, Covered t r.1 r.2 k c) (hsym : ∀ e ∈ r.2, e.2.1 ∈ symbols) (w : List Rune) :
    DFA.accepts ⟨r.1, r.2⟩ t w = true ↔ (∀ c ∈ w, c ∈ symbols) ∧ t.last ∈ runS t t.root.firstPos w := by
  unfold DFA.accepts
  by_cases hex : ∃ c ∈ w, c ∉ symbols
  · rw [run_none symbols r.2 hsym w 0 hex]
    obtain ⟨c, hc, hn⟩ := hex
    exact ⟨fun h => (nomatch h), fun h => absurd (h.1 c hc) hn⟩
  · have hall : ∀ c ∈ w, c ∈ symbols := fun c hc => Decidable.by_contra fun hn => hex ⟨c, hc, hn⟩
    obtain ⟨j, S', h1, h2, h3⟩ := run_spec t symbols r.1 r.2 hcov w 0 _ h0 hall
    simp only [h1, List.getD_eq_getElem?_getD, h2, Option.getD_some, List.contains_iff_mem, h3 t.last, and_iff_right hall]

/-! ### the set-level run and the position automaton -/

/-- position `q` can be entered after the marked word `m`, whose first position is taken from `S` -/
def Enters (t : Tree) : Poses → MWord → Nat → Prop
  | S, [], q => q ∈ S
  | S, a :: m, q => a.1 ∈ S ∧ t.charAt a.1 = some a.2 ∧ Enters t (t.follows.get a.1) m q

/-- `Enters` looks at the set only through one membership -/
theorem enters_of_step (t : Tree) (S : Poses) (c : Rune) (m : MWord) (q : Nat) :
    Enters t (stepSet t S c) m q ↔ ∃ p ∈ S, t.charAt p = some c ∧ Enters t (t.follows.get p) m q := by
  cases m with
  | nil => exact mem_stepSet t S c q
  | cons a m => simp only [Enters, mem_stepSet, ← exists_and_right, and_assoc]

/-- **The set-level run holds exactly the positions that can be entered** after a marked word spelling the input. -/
theorem enters_iff (t : Tree) : ∀ (w : List Rune) (S : Poses) (q : Nat),
    q ∈ runS t S w ↔ ∃ m : MWord, m.map (·.2) = w ∧ Enters t S m q := by
  intro w
  induction w with
  | nil => intro S q; simp [runS, Enters]
  | cons c w ih =>
    intro S q
    simp only [runS, ih, enters_of_step, List.map_eq_cons_iff]
    constructor
    · rintro ⟨m, hm, p, hp, h1, h2⟩
      exact ⟨(p, c) :: m, ⟨_, _, rfl, rfl, hm⟩, hp, h1, h2⟩
    · rintro ⟨_, ⟨a, m, rfl, rfl, hm⟩, hp, h1, h2⟩
      exact ⟨m, hm, a.1, hp, h1, h2⟩

/-- `Enters` spelled out on the word extended by the entered position: the first position is in the set, neighbours
    follow one another, and every position but the entered one carries its character. -/
theorem enters_path (t : Tree) : ∀ (m : MWord) (S : Poses) (q : Nat) (d : Rune),
    Enters t S m q ↔ ((∀ a rest, m ++ [(q, d)] = a :: rest → a.1 ∈ S) ∧
      (∀ p q', Adj (m ++ [(q, d)]) p q' → q' ∈ t.follows.get p) ∧ (∀ a ∈ m, t.charAt a.1 = some a.2)) := by
  intro m
  induction m with
  | nil => intro S q d; simp [Enters, not_adj_single]
  | cons a m ih =>
    intro S q d
    simp only [Enters, ih _ q d, List.cons_append, forall_adj_cons, List.forall_mem_cons, List.cons.injEq]
    constructor
    · rintro ⟨h1, h2, h3, h4, h5⟩
      exact ⟨fun b rest e => e.1 ▸ h1, ⟨h3, h4⟩, h2, h5⟩
    · rintro ⟨h1, ⟨h3, h4⟩, h2, h5⟩
      exact ⟨h1 a _ ⟨rfl, rfl⟩, h2, h3, h4, h5⟩

/-- what `ast.Parse` establishes about the tree it hands to `ToDFA` -/
structure Marked (t : Tree) (r : Node) (mk : Rune) : Prop where
  shape : t.root = .concat [r, .char mk t.last]
  lin : Lin t.root
  fresh : t.last ∉ poses r
  pc : t.posChar = leaves t.root
  fol : t.follows = computeFollows [] t.root

theorem Marked.charAt_iff {t : Tree} {r : Node} {mk : Rune} (h : Marked t r mk) (a : Nat × Rune) :
    t.charAt a.1 = some a.2 ↔ a ∈ leaves t.root := by
  rw [Tree.charAt, h.pc, find?_key (poses_eq_map_leaves t.root ▸ lin_nodup t.root h.lin)]

theorem Marked.lastPos {t : Tree} {r : Node} {mk : Rune} (h : Marked t r mk) : t.root.lastPos = [t.last] := by
  rw [h.shape]
  simp [Node.lastPos, lastConcat, allNullable, Node.nullable]

theorem Marked.leaves_eq {t : Tree} {r : Node} {mk : Rune} (h : Marked t r mk) : leaves t.root = leaves r ++ [(t.last, mk)] := by
  rw [h.shape]
  simp [leaves, leavesList]

/-- the marked words of the tree are those of the pattern followed by the marker -/
theorem Marked.mlang_iff {t : Tree} {r : Node} {mk : Rune} (h : Marked t r mk) (m : MWord) :
    Node.mlang t.root (m ++ [(t.last, mk)]) ↔ Node.mlang r m := by
  rw [h.shape]
  simp only [Node.mlang, mlangCat]
  constructor
  · rintro ⟨u, _, e, hu, _, _, rfl, rfl, rfl⟩
    rw [List.append_nil, List.append_singleton_inj] at e
    exact e.1 ▸ hu
  · intro hm
    exact ⟨m, _, rfl, hm, _, [], (List.append_nil _).symm, rfl, rfl⟩

/-- **Entering the marker = an accepting run of the position automaton = a marked word of the pattern.** -/
theorem Marked.enters_last {t : Tree} {r : Node} {mk : Rune} (h : Marked t r mk) (m : MWord) :
    Enters t t.root.firstPos m t.last ↔ Node.mlang r m := by
  rw [← h.mlang_iff m, ← position_automaton t.root h.lin (m ++ [(t.last, mk)]) (by simp),
    enters_path t m t.root.firstPos t.last mk, h.fol]
  constructor
  · rintro ⟨h1, h2, h3⟩
    refine ⟨by simp, h1, ?_, h2, ?_⟩
    · intro init a e
      rw [h.lastPos, ← (List.append_singleton_inj.mp e).2]
      exact List.mem_singleton.mpr rfl
    · intro a ha
      rcases List.mem_append.mp ha with ha | ha
      · exact (h.charAt_iff a).mp (h3 a ha)
      · rw [h.leaves_eq]; exact List.mem_append_right _ ha
  · intro hp
    exact ⟨hp.hd, hp.adj, fun a ha => (h.charAt_iff a).mpr (hp.lvs a (List.mem_append_left _ ha))⟩

/-! ### the automaton `ToDFA` builds -/

theorem mem_insertNat (x y : Nat) (l : List Nat) : y ∈ insertNat x l ↔ y = x ∨ y ∈ l := by
  induction l with
  | nil => simp [insertNat]
  | cons z l ih =>
    simp only [insertNat]
    split
    · simp
    · split
      · rename_i h; subst h; simp
      · simp only [List.mem_cons, ih, or_left_comm]

theorem mem_sortDedup (l : List Nat) (y : Nat) : y ∈ sortDedup l ↔ y ∈ l := by
  unfold sortDedup
  rw [mem_foldl_insert (new := fun x => [x]) (fun u x y => by rw [mem_insertNat, or_comm, List.mem_singleton])]
  simp

/-- every character of a marked word of the pattern is an input symbol -/
theorem Marked.symbols {t : Tree} {r : Node} {mk : Rune} (h : Marked t r mk) (m : MWord) (hm : Node.mlang r m) :
    ∀ a ∈ m, a.2 ∈ symbolsOf t := by
  intro a ha
  have hl := mlang_leaves r m hm a ha
  rw [symbolsOf, mem_sortDedup, h.pc, h.leaves_eq]
  refine List.mem_map.mpr ⟨a, List.mem_filter.mpr ⟨List.mem_append_left _ hl, ?_⟩, rfl⟩
  simp only [ne_eq, decide_eq_true_eq]
  exact fun e => h.fresh (e ▸ leaves_poses r a hl)

/-- **The automaton of the direct route accepts exactly the language of the pattern's tree**: whatever automaton the
    worklist loop of `ToDFA` returns (before `Minimize`), it accepts a string iff the string is in the language of the
    tree of the pattern - every string, also over characters the pattern does not mention. -/
theorem dfa_language {t : Tree} {r : Node} {mk : Rune} (h : Marked t r mk) (d : DFA) (hd : toDFA? t = some d) (w : List Rune) :
    d.accepts t w = true ↔ Node.lang r w := by
  obtain ⟨res, hr, rfl⟩ := Option.map_eq_some_iff.mp hd
  obtain ⟨h0, hcov, hsym⟩ := explore_spec t (symbolsOf t) (dfaFuel t) 0 _ _ (Outer.init t _) res hr
  rw [accepts_iff h0 hcov hsym, enters_iff]
  constructor
  · rintro ⟨-, m, rfl, he⟩
    exact mlang_erase r m ((h.enters_last m).mp he)
  · intro hl
    obtain ⟨m, hm, rfl⟩ := mlang_lift r w hl
    refine ⟨fun c hc => ?_, m, rfl, (h.enters_last m).mpr hm⟩
    obtain ⟨a, ha, rfl⟩ := List.mem_map.mp hc
    exact h.symbols m hm a ha

/-- the tree `ast.Parse` builds: the pattern's tree indexed from 1, followed by the end marker at the last position -/
theorem build_marked (T : ClassTable) (p : Pat) :
    Marked (build T p) (index 1 (ofPat T p)).1 endMarker := by
  refine ⟨?_, build_lin T p, ?_, rfl, rfl⟩
  · simp [build, index, indexList]
  · intro hp
    have := (index_range (ofPat T p) 1).2.1 _ hp
    simp [build, index, indexList] at this

/-! ### numbering the leaves does not change the language -/

mutual
theorem lang_index : (n : Node) → (k : Nat) → Node.lang (index k n).1 = Node.lang n
  | .concat xs, k => by simp only [index, Node.lang]; exact langConcat_index xs k
  | .alt xs, k => by simp only [index, Node.lang]; exact langAlt_index xs k
  | .star x, k => by simp only [index, Node.lang]; rw [lang_index x k]
  | .empty, k => by simp only [index]
  | .char c p, k => by simp only [index, Node.lang]
theorem langConcat_index : (xs : List Node) → (k : Nat) → langConcat (indexList k xs).1 = langConcat xs
  | [], k => by simp only [indexList]
  | x :: xs, k => by simp only [indexList, langConcat]; rw [lang_index x k, langConcat_index xs _]
theorem langAlt_index : (xs : List Node) → (k : Nat) → langAlt (indexList k xs).1 = langAlt xs
  | [], k => by simp only [indexList]
  | x :: xs, k => by simp only [indexList, langAlt]; rw [lang_index x k, langAlt_index xs _]
end

end Emerge.Props.C10
