/-
  The action that dominates a table entry — the one that takes precedence over every other action of the
  entry — does not depend on the order in which the entry's actions are collected.
  (Shared by C06, where it is the resolution rule of the model, and C15, where it is the reason the loop over
  the dependency's unordered action set in `Spec.dominantAction` is harmless.)  Core Lean only.
-/
namespace Emerge.Dominant

/-- the first collected element that beats every other one -/
def dominant {α} [BEq α] (beats : α → α → Bool) (l : List α) : Option α :=
  l.find? fun x => l.all fun y => x == y || beats x y

theorem dominant_some {α} [BEq α] {beats : α → α → Bool} {l : List α} {x : α} (h : dominant beats l = some x) :
    x ∈ l ∧ ∀ y ∈ l, (x == y || beats x y) = true := by
  have hx := List.find?_some h
  exact ⟨List.mem_of_find?_eq_some h, List.all_eq_true.mp hx⟩

/-- Under an asymmetric `beats` at most one element beats every other one, so `dominant` finds it wherever it stands. -/
theorem dominant_eq_some_iff {α} [BEq α] [LawfulBEq α] (beats : α → α → Bool)
    (hasym : ∀ x y, beats x y = true → beats y x = true → False) {l : List α} {x : α} :
    dominant beats l = some x ↔ x ∈ l ∧ ∀ y ∈ l, (x == y || beats x y) = true := by
  refine ⟨dominant_some, fun ⟨hx, hdx⟩ => ?_⟩
  cases hd : dominant beats l with
  | none => exact absurd (List.all_eq_true.mpr hdx) (List.find?_eq_none.mp hd x hx)
  | some y =>
    obtain ⟨hy, hdy⟩ := dominant_some hd
    rcases Bool.or_eq_true_iff.mp (hdx y hy) with h | h
    · rw [eq_of_beq h]
    · rcases Bool.or_eq_true_iff.mp (hdy x hx) with h' | h'
      · rw [eq_of_beq h']
      · exact (hasym x y h h').elim

theorem dominant_perm {α} [BEq α] [LawfulBEq α] (beats : α → α → Bool)
    (hasym : ∀ x y, beats x y = true → beats y x = true → False)
    {l₁ l₂ : List α} (h : l₁.Perm l₂) : dominant beats l₁ = dominant beats l₂ :=
  Option.ext fun x => by
    rw [dominant_eq_some_iff beats hasym, dominant_eq_some_iff beats hasym]
    simp only [h.mem_iff]

end Emerge.Dominant
