import Emerge.Proofs.Subset
/-
  The worklist loop of `ToDFA` terminates: its states are pairwise different sets of positions of the tree, so there are
  at most 2^n of them, and the fuel of the model (`dfaFuel`, 2^n + 1) is never exhausted.
  Core Lean only.
-/
namespace Emerge.Props.C10
open Emerge Emerge.Regex Emerge.Regex.Follow

/-- a set of positions as a number: bit i says whether the i-th position of the universe is in the set -/
def code : List Nat → Poses → Nat
  | [], _ => 0
  | p :: ps, S => (if p ∈ S then 1 else 0) + 2 * code ps S

theorem code_lt (P : List Nat) (S : Poses) : code P S < 2 ^ P.length := by
  induction P with
  | nil => simp [code]
  | cons p ps ih =>
    simp only [code, List.length_cons, Nat.pow_succ]
    split <;> omega

/-- the code says which positions of the universe are in the set -/
theorem code_eq_iff (P : List Nat) (S S' : Poses) : code P S = code P S' ↔ ∀ p ∈ P, (p ∈ S ↔ p ∈ S') := by
  induction P with
  | nil => simp [code]
  | cons q ps ih =>
    rw [List.forall_mem_cons, ← ih, code, code]
    -- the lowest bit and the rest can be read off the sum
    by_cases h1 : q ∈ S <;> by_cases h2 : q ∈ S' <;> simp [h1, h2] <;> omega

theorem code_congr (P : List Nat) {S S' : Poses} (h : SetEq S S') : code P S = code P S' :=
  (code_eq_iff P S S').mpr fun p _ => h p

theorem setEq_of_code (P : List Nat) {S S' : Poses} (hS : ∀ x ∈ S, x ∈ P) (hS' : ∀ x ∈ S', x ∈ P)
    (h : code P S = code P S') : SetEq S S' :=
  fun x => ⟨fun hx => ((code_eq_iff P S S').mp h x (hS x hx)).mp hx, fun hx => ((code_eq_iff P S S').mp h x (hS' x hx)).mpr hx⟩

/-- the states are sets of positions of the universe, pairwise different as sets -/
structure Distinct (P : List Nat) (states : List Poses) : Prop where
  sub : ∀ S ∈ states, ∀ x ∈ S, x ∈ P
  ne : states.Pairwise fun S S' => ¬ SetEq S S'

/-- there are at most `2 ^ n` different subsets of `n` positions: their codes are different numbers below `2 ^ n` -/
theorem Distinct.length_le {P : List Nat} {states : List Poses} (h : Distinct P states) : states.length ≤ 2 ^ P.length := by
  have hn : (states.map (code P)).Nodup :=
    List.pairwise_map.mpr (h.ne.imp_of_mem fun hS hS' hne he => hne (setEq_of_code P (h.sub _ hS) (h.sub _ hS') he))
  have hs : states.map (code P) ⊆ List.range (2 ^ P.length) := by
    intro c hc
    obtain ⟨S, _, rfl⟩ := List.mem_map.mp hc
    exact List.mem_range.mpr (code_lt P S)
  simpa using hn.length_le_of_subset hs

theorem Distinct.snoc {P : List Nat} {states : List Poses} (h : Distinct P states) {U : Poses} (hU : ∀ x ∈ U, x ∈ P)
    (hne : ∀ S ∈ states, ¬ SetEq S U) : Distinct P (states ++ [U]) := by
  refine ⟨fun S hS => ?_, List.pairwise_append.mpr ⟨h.ne, List.pairwise_singleton _ _, fun S hS U' hU' => ?_⟩⟩
  · rcases List.mem_append.mp hS with hS | hS
    · exact h.sub S hS
    · exact List.mem_singleton.mp hS ▸ hU
  · exact List.mem_singleton.mp hU' ▸ hne S hS

theorem Distinct.step {P : List Nat} {t : Tree} (hfol : ∀ p q, q ∈ t.follows.get p → q ∈ P)
    {acc : List Poses × Trans} (h : Distinct P acc.1) (S : Poses) (i : Nat) (c : Rune) :
    Distinct P (addSym t S i acc c).1 ∧ acc.1.length ≤ (addSym t S i acc c).1.length := by
  obtain ⟨j, more, U, e, -, -, rfl | ⟨rfl, hne⟩⟩ := addSym_spec t S i acc c
  · rw [e]; simpa using h
  · rw [e]
    refine ⟨h.snoc (fun x hx => ?_) hne, by simp⟩
    obtain ⟨p, -, -, hq⟩ := (mem_stepSet t S c x).mp hx
    exact hfol p x hq

theorem Distinct.fold {P : List Nat} {t : Tree} (hfol : ∀ p q, q ∈ t.follows.get p → q ∈ P) (S : Poses) (i : Nat) :
    ∀ (cs : List Rune) (acc : List Poses × Trans), Distinct P acc.1 →
      Distinct P (cs.foldl (addSym t S i) acc).1 ∧ acc.1.length ≤ (cs.foldl (addSym t S i) acc).1.length
  | [], _, h => ⟨h, Nat.le_refl _⟩
  | c :: cs, acc, h => by
    obtain ⟨h1, l1⟩ := h.step hfol S i c
    obtain ⟨h2, l2⟩ := Distinct.fold hfol S i cs _ h1
    exact ⟨h2, Nat.le_trans l1 l2⟩

/-- **The loop finishes within its fuel.** -/
theorem explore_some {P : List Nat} {t : Tree} (hfol : ∀ p q, q ∈ t.follows.get p → q ∈ P) (symbols : List Rune) :
    ∀ (fuel i : Nat) (states : List Poses) (tr : Trans), Distinct P states → i ≤ states.length → 2 ^ P.length + 1 ≤ fuel + i →
      ∃ r, explore t symbols fuel i states tr = some r := by
  intro fuel i states tr
  fun_induction explore t symbols fuel i states tr with
  | case1 =>
    intro h hi hf
    have := h.length_le
    omega
  | case2 => intro _ _ _; exact ⟨_, rfl⟩
  | case3 fuel i states tr S hS r' ih =>
    intro h hi hf
    obtain ⟨h1, (l1 : states.length ≤ r'.1.length)⟩ := Distinct.fold hfol S i symbols (states, tr) h
    have hlt : i < states.length := (List.getElem?_eq_some_iff.mp hS).1
    exact ih h1 (by omega) (by omega)

theorem length_poses (n : Node) : (poses n).length = (leaves n).length := by
  rw [poses_eq_map_leaves, List.length_map]

theorem length_posesList : (xs : List Node) → (posesList xs).length = (leavesList xs).length :=
  fun xs => length_poses (.concat xs)

/-- **`ToDFA` always returns an automaton** for the tree `ast.Parse` builds (the model never runs out of fuel). -/
theorem toDFA_some {t : Tree} {r : Node} {mk : Rune} (h : Marked t r mk) : ∃ d, toDFA? t = some d := by
  have hfol : ∀ p q, q ∈ t.follows.get p → q ∈ poses t.root := by
    intro p q hq
    rw [h.fol] at hq
    exact (Fol_sub t.root p q (computed_follow_is_Fol t.root p q hq)).2
  have hd : Distinct (poses t.root) [t.root.firstPos] :=
    ⟨by simpa using first_sub t.root, List.pairwise_singleton _ _⟩
  obtain ⟨r', hr'⟩ := explore_some hfol (symbolsOf t) (dfaFuel t) 0 [t.root.firstPos] [] hd (by simp)
    (by rw [dfaFuel, h.pc, length_poses]; omega)
  exact ⟨⟨r'.1, r'.2⟩, by rw [toDFA?, hr']; rfl⟩

end Emerge.Props.C10
