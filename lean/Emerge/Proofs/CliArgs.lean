import Emerge.CliArgs
/-
  Facts about the model of the command line (`Emerge.CliArgs.parse`): what is left over is a suffix of the command
  line, and the flag set looks at nothing behind the first argument that is not a flag.
-/
namespace Emerge.CliArgs

/-- what `FlagSet.Args()` returns is the end of the command line: nothing is reordered, nothing invented -/
theorem parse_suffix (T : Table) (argv : List String) (acc : List (String × String)) (sets : List (String × String))
    (rest : List String) (h : parse T argv acc = .ok sets rest) : ∃ pre, argv = pre ++ rest := by
  fun_induction parse T argv acc generalizing sets rest
  -- nothing left; an argument that is not a flag, which stays; `--`, which goes
  case case1 => cases h; exact ⟨[], rfl⟩
  case case2 => cases h; exact ⟨[], rfl⟩
  case case3 => cases h; exact ⟨[_], rfl⟩
  -- a flag that is complete in itself: one argument consumed; a value in the next argument: two
  case case7 ih | case8 ih | case10 ih => obtain ⟨pre, hp⟩ := ih sets rest h; exact ⟨_ :: pre, by rw [hp]; rfl⟩
  case case12 ih => obtain ⟨pre, hp⟩ := ih sets rest h; exact ⟨_ :: _ :: pre, by rw [hp]; rfl⟩
  -- the other five end in `.bad` or `.help`
  all_goals cases h

/-- The flag set does not look behind the first argument that is not a flag: if the arguments `pre` are consumed
    completely as flags, then `pre` followed by a positional argument and anything else gives the same settings and leaves
    the positional argument and everything after it - untouched, whatever it looks like - to `Run`. -/
theorem parse_stops_at_positional (T : Table) (pre : List String) (acc sets : List (String × String)) (p : String)
    (post : List String) (hp : classify p = .positional) (h : parse T pre acc = .ok sets []) :
    parse T (pre ++ p :: post) acc = .ok sets (p :: post) := by
  fun_induction parse T pre acc generalizing sets
  -- `pre` is used up, or `--` was its last argument: `p` is looked at next, and stays
  case case1 => cases h; simp [parse, hp]
  case case3 hc => cases h; simp [parse, hc]
  -- a flag: the same step is taken with more behind it
  case case7 ih | case8 ih | case10 ih | case12 ih => simp_all [parse]
  -- `pre` cannot end in any other way
  all_goals cases h

end Emerge.CliArgs
