import Emerge.Reader
/-
  Refinement: the two-half reader is the plain byte stream.

  Ghost state: `b0`/`b1` are the source offsets of the blocks that sit in the first/second half
  (`sv` = the second half has been loaded at all). All arithmetic is linear in these, so `omega`
  carries it; no `%`/`/` by the (variable) half size appears anywhere.
  `omega` pays for every `→`, `∨` and `-` among its hypotheses with a case split, so it is not given `Inv` as it
  stands: `Blocks` is the three shapes the ghost blocks can have, `At` says where the cursor stands in the buffer, and
  `At.fwd`/`At.back` move it with the case analysis (inside a half, across a boundary) written out. A call that loads
  nothing then goes through `Inv.move`.
-/
namespace Emerge.Reader

structure Ghost where
  b0 : Nat
  b1 : Nat
  sv : Nat      -- 1 once the second half has been loaded
  nw : Nat      -- offset of the newest loaded block

structure Inv (src : Nat → Nat) (len n : Nat) (s : RState) (k : Nat) (g : Ghost) : Prop where
  npos : 0 < n
  fwdlt : s.fwd < 2 * n
  hw : k + s.pend ≤ len
  pendle : s.pend ≤ n
  pos0 : s.fwd < n → k = g.b0 + s.fwd
  pos1 : n ≤ s.fwd → g.sv = 1 ∧ k = g.b1 + (s.fwd - n)
  dat0 : ∀ i, i < n → g.b0 + i < len → s.buf i = src (g.b0 + i)
  sen0 : g.b0 ≤ len → len < g.b0 + n → s.buf (len - g.b0) = 0
  dat1 : g.sv = 1 → ∀ i, i < n → g.b1 + i < len → s.buf (n + i) = src (g.b1 + i)
  sen1 : g.sv = 1 → g.b1 ≤ len → len < g.b1 + n → s.buf (n + (len - g.b1)) = 0
  adj : g.sv = 1 → g.b1 = g.b0 + n ∨ g.b0 = g.b1 + n
  first : g.sv ≠ 1 → g.b0 = 0
  nwdef : (g.nw = g.b0 ∧ (g.sv = 1 → g.b1 ≤ g.b0)) ∨ (g.sv = 1 ∧ g.nw = g.b1 ∧ g.b0 < g.b1)
  newLo : g.nw ≤ k + s.pend
  newHi : k + s.pend < g.nw + n
  ld : s.loaded = min len (g.nw + n)
  old : g.nw ≤ k + n
  stop0 : (g.nw = g.b0 ∧ (g.sv = 1 → g.b1 ≤ g.b0)) → len < g.b0 + n → s.stop = some (len - g.b0)
  stop1 : (g.sv = 1 ∧ g.nw = g.b1 ∧ g.b0 < g.b1) → len < g.b1 + n → s.stop = some (n + (len - g.b1))
  stopN : g.nw + n ≤ len → s.stop = none

def NulFree (src : Nat → Nat) (len : Nat) : Prop := ∀ j, j < len → src j ≠ 0

/-! ### `load`: the block at source offset `s.loaded` goes into the half that starts at `low` -/

section load
variable {src : Nat → Nat} {len n : Nat} {s : RState} {low off : Nat} (e : s.loaded = off)
include e

theorem load_buf_in {i j : Nat} (hj : j = low + i) (hi : i < n) (hl : off + i < len) :
    (load src len n s low).buf j = src (off + i) := by
  show (if low ≤ j ∧ j < low + min n (len - s.loaded) then src (s.loaded + (j - low)) else _) = _
  rw [if_pos (by omega), e, hj, Nat.add_sub_cancel_left]

theorem load_buf_end {j : Nat} (hj : j = low + (len - off)) (h1 : off ≤ len) (h2 : len < off + n) :
    (load src len n s low).buf j = 0 := by
  show (if low ≤ j ∧ j < low + min n (len - s.loaded) then _
        else if j = low + min n (len - s.loaded) ∧ min n (len - s.loaded) < n then 0 else _) = _
  rw [if_neg (by omega), if_pos (by omega)]

theorem load_loaded (h : off ≤ len) : (load src len n s low).loaded = min len (off + n) := by
  show s.loaded + min n (len - s.loaded) = _
  omega

theorem load_stop (h : off ≤ len) :
    (load src len n s low).stop = if len < off + n then some (low + (len - off)) else s.stop := by
  show (if min n (len - s.loaded) < n then some (low + min n (len - s.loaded)) else s.stop) = _
  by_cases hl : len < off + n
  · rw [if_pos hl, if_pos (by omega)]; congr 2; omega
  · rw [if_neg hl, if_neg (by omega)]

end load

theorem load_buf_out (src : Nat → Nat) (len n : Nat) (s : RState) {low i : Nat} (h : i < low ∨ low + n ≤ i) :
    (load src len n s low).buf i = s.buf i := by
  show (if low ≤ i ∧ i < low + min n (len - s.loaded) then _
        else if i = low + min n (len - s.loaded) ∧ min n (len - s.loaded) < n then 0 else _) = _
  rw [if_neg (by omega), if_neg (by omega)]

@[simp] theorem load_fwd (src : Nat → Nat) (len n : Nat) (s : RState) (low : Nat) : (load src len n s low).fwd = s.fwd := rfl
@[simp] theorem load_pend (src : Nat → Nat) (len n : Nat) (s : RState) (low : Nat) : (load src len n s low).pend = s.pend := rfl

/-! ### the ghost blocks, and where the cursor stands in the buffer -/

/-- What `Inv.adj`, `Inv.first` and `Inv.nwdef` say of the ghost blocks: only the first half has been loaded; or both,
    and then the newer block follows the older one. -/
structure Blocks (n : Nat) (g : Ghost) : Prop where
  npos : 0 < n
  shape : (g.sv ≠ 1 ∧ g.b0 = 0 ∧ g.nw = 0) ∨ (g.sv = 1 ∧ g.b1 = g.b0 + n ∧ g.nw = g.b1) ∨
    (g.sv = 1 ∧ g.b0 = g.b1 + n ∧ g.nw = g.b0)

/-- an offset below the end of the newest block and behind the block of one half: the other half holds the next block -/
theorem Blocks.after {n g} (b : Blocks n g) {w : Nat} (hi : w < g.nw + n) :
    (g.b0 + n ≤ w → g.sv = 1 ∧ g.b1 = g.b0 + n) ∧ (g.sv = 1 → g.b1 + n ≤ w → g.b0 = g.b1 + n) := by
  rcases b.shape with ⟨_, _, _⟩ | ⟨_, _, _⟩ | ⟨_, _, _⟩
  all_goals omega

/-- an offset at most a half below the newest block and before the block of one half: the other half holds the block
    before -/
theorem Blocks.before {n g} (b : Blocks n g) {j : Nat} (lo : g.nw ≤ j + n) :
    (j < g.b0 → g.sv = 1 ∧ g.b0 = g.b1 + n) ∧ (g.sv = 1 → j < g.b1 → g.b1 = g.b0 + n) := by
  have := b.npos
  rcases b.shape with ⟨_, _, _⟩ | ⟨_, _, _⟩ | ⟨_, _, _⟩
  all_goals omega

/-- buffer index `f` holds the byte at source offset `k` (`Inv.pos0`, `Inv.pos1` and `Inv.fwdlt` in one, without `-`) -/
def At (n : Nat) (g : Ghost) (f k : Nat) : Prop :=
  (f < n ∧ k = g.b0 + f) ∨ (n ≤ f ∧ f < 2 * n ∧ g.sv = 1 ∧ k + n = g.b1 + f)

theorem at_iff {n g f k} :
    At n g f k ↔ f < 2 * n ∧ (f < n → k = g.b0 + f) ∧ (n ≤ f → g.sv = 1 ∧ k = g.b1 + (f - n)) := by
  unfold At; omega

/-- one byte forward, `forward` wrapping at the end of the buffer: inside a half nothing is to be shown, at the end of
    a half the other half holds the next block, since the offset is still below the end of the newest block -/
theorem At.fwd {n g f k} (b : Blocks n g) (h : At n g f k) (hi : k + 1 < g.nw + n) :
    At n g (if f + 1 = 2 * n then 0 else f + 1) (k + 1) := by
  have := b.npos
  rcases h with ⟨hf, e⟩ | ⟨hf, hf2, hsv, e⟩
  · rw [if_neg (by omega)]
    by_cases hn : f + 1 = n
    · have := (b.after hi).1 (by omega)
      exact .inr (by omega)
    · exact .inl (by omega)
  · split
    · have := (b.after hi).2 hsv (by omega)
      exact .inl (by omega)
    · exact .inr (by omega)

/-- `size` bytes back, `forward` wrapping below 0, as long as the offset stays within a half of the newest block -/
theorem At.back {n g f k k'} (b : Blocks n g) (h : At n g f k) {size : Nat} (hs : k' + size = k) (hn : size ≤ n)
    (lo : g.nw ≤ k' + n) : At n g (if size ≤ f then f - size else f + 2 * n - size) k' := by
  rcases h with ⟨hf, e⟩ | ⟨hf, hf2, hsv, e⟩
  · split
    · exact .inl (by omega)
    · have := (b.before lo).1 (by omega)
      exact .inr (by omega)
  · rw [if_pos (by omega)]
    by_cases hh : n ≤ f - size
    · exact .inr (by omega)
    · have := (b.before lo).2 hsv (by omega)
      exact .inl (by omega)

/-- an offset in the newest block (or beyond): the half it is in holds that block -/
theorem At.newest {n g f k} (b : Blocks n g) (h : At n g f k) (lo : g.nw ≤ k) :
    (f < n ∧ g.nw = g.b0) ∨ (n ≤ f ∧ g.nw = g.b1) := by
  unfold At at h
  rcases b.shape with ⟨_, _, _⟩ | ⟨_, _, _⟩ | ⟨_, _, _⟩
  all_goals omega

section
variable {src : Nat → Nat} {len n : Nat} {s : RState} {k : Nat} {g : Ghost} (h : Inv src len n s k g)
include h

theorem Inv.blocks : Blocks n g := by
  have npos := h.npos; have first := h.first; have nwdef := h.nwdef
  refine ⟨npos, ?_⟩
  by_cases hsv : g.sv = 1
  · rcases h.adj hsv with e | e
    · exact .inr (.inl (by omega))
    · exact .inr (.inr (by omega))
  · exact .inl (by omega)

theorem Inv.at : At n g s.fwd k := at_iff.mpr ⟨h.fwdlt, h.pos0, h.pos1⟩

/-- A call that loads nothing leaves the buffer, the blocks, `loaded` and `end` alone: what is to be shown is where the
    cursor stands, and that the bytes read so far still end in the newest block. -/
theorem Inv.move {f p k' : Nat} (hat : At n g f k') (hp : p ≤ n) (hw : k' + p ≤ len) (lo : g.nw ≤ k' + p)
    (hi : k' + p < g.nw + n) (x : List Nat) : Inv src len n { s with fwd := f, pend := p, pending := x } k' g :=
  { h with fwdlt := (at_iff.mp hat).1, pos0 := (at_iff.mp hat).2.1, pos1 := (at_iff.mp hat).2.2, hw := hw, pendle := hp,
           newLo := lo, newHi := hi, old := Nat.le_trans lo (Nat.add_le_add_left hp k') }

end

theorem init_inv (src : Nat → Nat) (len n : Nat) (buf0 : Nat → Nat) (hn : 0 < n) :
    Inv src len n (init src len n buf0) 0 ⟨0, 0, 0, 0⟩ := by
  have e : (⟨buf0, 0, 0, 0, [], none⟩ : RState).loaded = 0 := rfl
  constructor
  case npos => exact hn
  case fwdlt => show 0 < 2 * n; omega
  case hw => exact Nat.zero_le _
  case pendle => exact Nat.zero_le _
  case pos0 => intro _; rfl
  case pos1 => intro (h : n ≤ 0); omega
  case dat0 => intro i hi hl; exact load_buf_in e (Nat.zero_add i).symm hi hl
  case sen0 => intro h1 h2; exact load_buf_end e (Nat.zero_add _).symm h1 h2
  case dat1 => intro (h : (0 : Nat) = 1); omega
  case sen1 => intro (h : (0 : Nat) = 1); omega
  case adj => intro (h : (0 : Nat) = 1); omega
  case first => intro _; rfl
  case nwdef => exact .inl ⟨rfl, fun (h : (0 : Nat) = 1) => by omega⟩
  case newLo => exact Nat.le_refl _
  case newHi => show 0 + 0 < 0 + n; omega
  case ld => exact load_loaded e (Nat.zero_le _)
  case old => exact Nat.zero_le _
  case stop0 =>
    intro _ (hl : len < 0 + n)
    show (load src len n ⟨buf0, 0, 0, 0, [], none⟩ 0).stop = some (len - 0)
    rw [load_stop e (Nat.zero_le _), if_pos hl, Nat.zero_add]
  case stop1 => intro (hh : (0 : Nat) = 1 ∧ _); omega
  case stopN =>
    intro (hl : 0 + n ≤ len)
    show (load src len n ⟨buf0, 0, 0, 0, [], none⟩ 0).stop = none
    rw [load_stop e (Nat.zero_le _), if_neg (by omega)]

/-- the byte under `forward` is the source byte at the cursor, or the sentinel at the end -/
theorem cur_byte {src len n s k g} (h : Inv src len n s k g) : (k < len → s.buf s.fwd = src k) ∧ (k = len → s.buf s.fwd = 0) := by
  have hw := h.hw
  rcases h.at with ⟨hf, e⟩ | ⟨hf, _, hsv, e⟩
  · constructor
    · intro hk
      rw [h.dat0 s.fwd hf (by omega), e]
    · intro hk
      have := h.sen0 (by omega) (by omega)
      rwa [show len - g.b0 = s.fwd by omega] at this
  · constructor
    · intro hk
      have := h.dat1 hsv (s.fwd - n) (by omega) (by omega)
      rwa [show n + (s.fwd - n) = s.fwd by omega, show g.b1 + (s.fwd - n) = k by omega] at this
    · intro hk
      have := h.sen1 hsv (by omega) (by omega)
      rwa [show n + (len - g.b1) = s.fwd by omega] at this

/-- `forward` stands on the recorded end exactly when the cursor is at the end of the source -/
theorem at_stop {src len n s k g} (h : Inv src len n s k g) : s.stop = some s.fwd ↔ k = len := by
  have hw := h.hw; have lo := h.newLo; have hi := h.newHi; have hat := h.at
  by_cases hfull : g.nw + n ≤ len
  · rw [h.stopN hfull]
    constructor
    · intro hh; cases hh
    · intro hk; omega
  · unfold At at hat
    rcases h.blocks.shape with ⟨h1, h2, h3⟩ | ⟨h1, h2, h3⟩ | ⟨h1, h2, h3⟩
    · rw [h.stop0 ⟨by omega, fun hh => absurd hh h1⟩ (by omega), Option.some_inj]; omega
    · rw [h.stop1 ⟨h1, h3, by have := h.npos; omega⟩ (by omega), Option.some_inj]; omega
    · rw [h.stop0 ⟨h3, by omega⟩ (by omega), Option.some_inj]; omega

section
variable {src : Nat → Nat} {len n : Nat} {s : RState} {k : Nat} {g : Ghost} (h : Inv src len n s k g)
include h

/-- re-reading a byte that `Retract` gave back: no load, the halves stay as they are -/
theorem step_reread (hp : 0 < s.pend) :
    Inv src len n { s with fwd := if s.fwd + 1 = 2 * n then 0 else s.fwd + 1, pend := s.pend - 1 } (k + 1) g := by
  have hw := h.hw; have lo := h.newLo; have hi := h.newHi; have := h.pendle
  exact h.move (h.at.fwd h.blocks (by omega)) (by omega) (by omega) (by omega) (by omega) s.pending

/-- an ordinary step inside a half: the cursor is in the newest block and does not leave it -/
theorem step_plain (hk : k < len) (hp : s.pend = 0) (h1 : s.fwd + 1 ≠ n) (h2 : s.fwd + 1 ≠ 2 * n) :
    Inv src len n { s with fwd := s.fwd + 1 } (k + 1) g := by
  have lo := h.newLo; have hi := h.newHi; have hat := h.at
  have hi' : k + 1 < g.nw + n := by
    have := hat.newest h.blocks (by omega)
    unfold At at hat
    omega
  have hat' := hat.fwd h.blocks hi'
  rw [if_neg h2] at hat'
  exact h.move hat' (by omega) (by omega) (by omega) (by omega) s.pending

/-- nothing given back and `forward` at the end of a half: the cursor is at the end of the newest block, the next
    block is due -/
theorem Inv.frontier (hk : k < len) (hp : s.pend = 0) (hf : s.fwd + 1 = n ∨ s.fwd + 1 = 2 * n) :
    k + 1 = g.nw + n ∧ s.loaded = g.nw + n ∧ g.nw = if s.fwd + 1 = n then g.b0 else g.b1 := by
  have hw := h.hw; have lo := h.newLo; have hi := h.newHi; have ld := h.ld; have hat := h.at; have := h.npos
  have := hat.newest h.blocks (by omega)
  unfold At at hat
  split
  all_goals omega

/-- `forward` reaches the end of the first half: the next block goes into the second half -/
theorem step_load_second (hk : k < len) (hp : s.pend = 0) (h1 : s.fwd + 1 = n) :
    Inv src len n (load src len n { s with fwd := s.fwd + 1 } n) (k + 1) ⟨g.b0, g.b0 + n, 1, g.b0 + n⟩ := by
  have npos := h.npos
  obtain ⟨ek, eld, enw⟩ := h.frontier hk hp (.inl h1)
  rw [if_pos h1] at enw
  rw [enw] at ek eld
  have eld' : ({ s with fwd := s.fwd + 1 } : RState).loaded = g.b0 + n := eld
  have hle : g.b0 + n ≤ len := by omega
  constructor
  case npos => exact npos
  case fwdlt => show s.fwd + 1 < 2 * n; omega
  case hw => show k + 1 + s.pend ≤ len; omega
  case pendle => exact h.pendle
  case pos0 => intro (hh : s.fwd + 1 < n); omega
  case pos1 => intro _; exact ⟨rfl, by show k + 1 = g.b0 + n + (s.fwd + 1 - n); omega⟩
  case dat0 => intro i hi hl; exact (load_buf_out _ _ _ _ (.inl hi)).trans (h.dat0 i hi hl)
  case sen0 => intro (_ : g.b0 ≤ len) (hl : len < g.b0 + n); omega
  case dat1 => intro _ i hi hl; exact load_buf_in eld' rfl hi hl
  case sen1 => intro _ hl1 hl2; exact load_buf_end eld' rfl hl1 hl2
  case adj => intro _; exact .inl rfl
  case first => intro (hh : (1 : Nat) ≠ 1); omega
  case nwdef => exact .inr ⟨rfl, rfl, by show g.b0 < g.b0 + n; omega⟩
  case newLo => show g.b0 + n ≤ k + 1 + s.pend; omega
  case newHi => show k + 1 + s.pend < g.b0 + n + n; omega
  case ld => exact load_loaded eld' hle
  case old => show g.b0 + n ≤ k + 1 + n; omega
  case stop0 => intro (hh : g.b0 + n = g.b0 ∧ _); omega
  case stop1 =>
    intro _ (hl : len < g.b0 + n + n)
    show (load src len n { s with fwd := s.fwd + 1 } n).stop = some (n + (len - (g.b0 + n)))
    rw [load_stop eld' hle, if_pos hl]
  case stopN =>
    intro (hl : g.b0 + n + n ≤ len)
    show (load src len n { s with fwd := s.fwd + 1 } n).stop = none
    rw [load_stop eld' hle, if_neg (by omega)]
    exact h.stopN (by omega)

/-- `forward` reaches the end of the second half: the next block goes into the first half, `forward` wraps -/
theorem step_load_first (hk : k < len) (hp : s.pend = 0) (h1 : s.fwd + 1 = 2 * n) :
    Inv src len n { load src len n s 0 with fwd := 0 } (k + 1) ⟨g.b1 + n, g.b1, 1, g.b1 + n⟩ := by
  have npos := h.npos
  obtain ⟨ek, eld, enw⟩ := h.frontier hk hp (.inr h1)
  have ⟨hsv, _⟩ := h.pos1 (by omega)
  rw [if_neg (by omega)] at enw
  rw [enw] at ek eld
  have hle : g.b1 + n ≤ len := by omega
  constructor
  case npos => exact npos
  case fwdlt => show 0 < 2 * n; omega
  case hw => show k + 1 + s.pend ≤ len; omega
  case pendle => exact h.pendle
  case pos0 => intro _; show k + 1 = g.b1 + n + 0; omega
  case pos1 => intro (hh : n ≤ 0); omega
  case dat0 => intro i hi hl; exact load_buf_in eld (Nat.zero_add i).symm hi hl
  case sen0 => intro hl1 hl2; exact load_buf_end eld (Nat.zero_add _).symm hl1 hl2
  case dat1 => intro _ i hi hl; exact (load_buf_out _ _ _ _ (.inr (by omega))).trans (h.dat1 hsv i hi hl)
  case sen1 => intro _ (hl1 : g.b1 ≤ len) (hl2 : len < g.b1 + n); omega
  case adj => intro _; exact .inr rfl
  case first => intro (hh : (1 : Nat) ≠ 1); omega
  case nwdef => exact .inl ⟨rfl, fun _ => by show g.b1 ≤ g.b1 + n; omega⟩
  case newLo => show g.b1 + n ≤ k + 1 + s.pend; omega
  case newHi => show k + 1 + s.pend < g.b1 + n + n; omega
  case ld => show (load src len n s 0).loaded = _; exact load_loaded eld hle
  case old => show g.b1 + n ≤ k + 1 + n; omega
  case stop0 =>
    intro _ (hl : len < g.b1 + n + n)
    show (load src len n s 0).stop = some (len - (g.b1 + n))
    rw [load_stop eld hle, if_pos hl, Nat.zero_add]
  case stop1 => intro (hh : (1 : Nat) = 1 ∧ g.b1 + n = g.b1 ∧ _); omega
  case stopN =>
    intro (hl : g.b1 + n + n ≤ len)
    show (load src len n s 0).stop = none
    rw [load_stop eld hle, if_neg (by omega)]
    exact h.stopN (by omega)

/-- **`next` is the stream's `next`** (for every source, zero bytes included): below the end it returns the source byte
    at the cursor and the invariant holds at the advanced cursor, with one byte less given back -/
theorem nextCore_lt (hk : k < len) :
    ∃ s' g', nextCore src len n s = (some (src k), s') ∧ Inv src len n s' (k + 1) g' ∧ s'.pend = s.pend - 1 := by
  have hne : ¬ (s.buf s.fwd = 0 ∧ s.stop = some s.fwd) := fun hh => by have := (at_stop h).mp hh.2; omega
  unfold nextCore
  simp only [hne, if_false]
  rw [(cur_byte h).1 hk]
  by_cases hp : 0 < s.pend
  · rw [if_pos hp]
    exact ⟨_, g, rfl, step_reread h hp, rfl⟩
  · rw [if_neg hp]
    have hp0 : s.pend = 0 := by omega
    by_cases h1 : s.fwd + 1 = n
    · rw [if_pos h1]
      exact ⟨_, _, rfl, step_load_second h hk hp0 h1, by show s.pend = s.pend - 1; omega⟩
    · rw [if_neg h1]
      by_cases h2 : s.fwd + 1 = 2 * n
      · rw [if_pos h2]
        exact ⟨_, _, rfl, step_load_first h hk hp0 h2, by show s.pend = s.pend - 1; omega⟩
      · rw [if_neg h2]
        exact ⟨_, g, rfl, step_plain h hk hp0 h1 h2, by show s.pend = s.pend - 1; omega⟩

/-- at the end it returns EOF and changes nothing -/
theorem nextCore_end (hk : ¬ k < len) : nextCore src len n s = (none, s) := by
  have hkl : k = len := by have := h.hw; omega
  show (if s.buf s.fwd = 0 ∧ s.stop = some s.fwd then (none, s) else _) = _
  rw [if_pos ⟨(cur_byte h).2 hkl, (at_stop h).mpr hkl⟩]

/-- **`Retract` moves the cursor back**: giving back `size` bytes that were read (and keeping the total given back
    within one half) leaves the reader at cursor `k - size` -/
theorem retract_refines (size : Nat) (hs : size ≤ k) (hp : s.pend + size ≤ n) :
    Inv src len n (retract n s size) (k - size) g := by
  have hw := h.hw; have lo := h.newLo; have hi := h.newHi
  exact h.move (h.at.back h.blocks (Nat.sub_add_cancel hs) (by omega) (by omega)) hp (by omega) (by omega) (by omega) _

theorem inv_pending (x : List Nat) : Inv src len n { s with pending := x } k g :=
  h.move h.at h.pendle h.hw h.newLo h.newHi x

end

/-! ### runs: any interleaving of `next`, `Retract`, `Lexeme` and `Skip` that respects the reader's contract -/

/-- the slice of the source between two cursors -/
def slice (src : Nat → Nat) (kb k : Nat) : List Nat := (List.range (k - kb)).map fun i => src (kb + i)

theorem slice_succ (src : Nat → Nat) {kb k : Nat} (h : kb ≤ k) : slice src kb (k + 1) = slice src kb k ++ [src k] := by
  unfold slice
  have e : k + 1 - kb = (k - kb) + 1 := by omega
  rw [e, List.range_succ, List.map_append]
  simp only [List.map_cons, List.map_nil]
  have e2 : kb + (k - kb) = k := by omega
  rw [e2]

theorem slice_take (src : Nat → Nat) {kb k size : Nat} (h : size + kb ≤ k) :
    (slice src kb k).take ((slice src kb k).length - size) = slice src kb (k - size) := by
  unfold slice
  simp only [List.length_map, List.length_range]
  rw [← List.map_take, List.take_range]
  congr 2
  omega

theorem slice_self (src : Nat → Nat) (k : Nat) : slice src k k = [] := by simp [slice]

/-- the reader at stream state `a` -/
structure Inv2 (src : Nat → Nat) (len n : Nat) (s : RState) (a : AState) (g : Ghost) : Prop where
  inv : Inv src len n s a.k g
  pend : s.pend = a.p
  kble : a.kb ≤ a.k
  pending : s.pending = slice src a.kb a.k

theorem init_inv2 (src : Nat → Nat) (len n : Nat) (buf0 : Nat → Nat) (hn : 0 < n) :
    Inv2 src len n (init src len n buf0) ⟨0, 0, 0⟩ ⟨0, 0, 0, 0⟩ :=
  ⟨init_inv src len n buf0 hn, rfl, Nat.le_refl _, by simp [init, load, slice]⟩

section
variable {src : Nat → Nat} {len n : Nat} {s : RState} {a : AState} {g : Ghost} (h : Inv2 src len n s a g)
include h

/-- one `next()` below the end of the source, in terms of the stream state -/
theorem next_lt (hk : a.k < len) :
    ∃ s' g', next src len n s = (some (src a.k), s') ∧ Inv2 src len n s' ⟨a.k + 1, a.p - 1, a.kb⟩ g' := by
  obtain ⟨s', g', e, hinv, hp⟩ := nextCore_lt h.inv hk
  refine ⟨{ s' with pending := s.pending ++ [src a.k] }, g', by simp only [Reader.next, e], inv_pending hinv _, ?_,
    Nat.le_succ_of_le h.kble, ?_⟩
  · show s'.pend = a.p - 1
    rw [hp, h.pend]
  · show s.pending ++ [src a.k] = slice src a.kb (a.k + 1)
    rw [h.pending, slice_succ src h.kble]

theorem next_end (hk : ¬ a.k < len) : next src len n s = (none, s) := by
  simp only [Reader.next, nextCore_end h.inv hk]

theorem step_refines (op : Op) {o : Out} {a' : AState} (hs : aStep src len n a op = some (o, a')) :
    (cStep src len n s op).1 = o ∧ ∃ g', Inv2 src len n (cStep src len n s op).2 a' g' := by
  cases op with
  | next =>
    by_cases hk : a.k < len
    · obtain ⟨s', g', e, hinv⟩ := next_lt h hk
      simp only [aStep, hk, if_true, Option.some.injEq, Prod.mk.injEq] at hs
      obtain ⟨rfl, rfl⟩ := hs
      simp only [cStep, e]
      exact ⟨trivial, g', hinv⟩
    · simp only [aStep, hk, if_false, Option.some.injEq, Prod.mk.injEq] at hs
      obtain ⟨rfl, rfl⟩ := hs
      simp only [cStep, next_end h hk]
      exact ⟨trivial, g, h⟩
  | retract size =>
    simp only [aStep] at hs
    split at hs
    · rename_i hc
      simp only [Option.some.injEq, Prod.mk.injEq] at hs
      obtain ⟨rfl, rfl⟩ := hs
      refine ⟨rfl, g, retract_refines h.inv size (by omega) (by rw [h.pend]; exact hc.2), ?_, ?_, ?_⟩
      · show s.pend + size = a.p + size; rw [h.pend]
      · show a.kb ≤ a.k - size; omega
      · show s.pending.take (s.pending.length - size) = slice src a.kb (a.k - size)
        rw [h.pending, slice_take src hc.1]
    · cases hs
  | lexeme =>
    simp only [aStep, Option.some.injEq, Prod.mk.injEq] at hs
    obtain ⟨rfl, rfl⟩ := hs
    exact ⟨congrArg Out.lex h.pending, g, inv_pending h.inv _, h.pend, Nat.le_refl _, (slice_self src a.k).symm⟩
  | skip =>
    simp only [aStep, Option.some.injEq, Prod.mk.injEq] at hs
    obtain ⟨rfl, rfl⟩ := hs
    exact ⟨rfl, g, inv_pending h.inv _, h.pend, Nat.le_refl _, (slice_self src a.k).symm⟩

end

/-- **Refinement for runs**: whatever sequence of `next`/`Retract`/`Lexeme`/`Skip` calls the lexer makes within the
    contract, the two-half reader returns exactly what the plain stream returns — for every source length, every
    half size and every alignment of the blocks; a lexeme may be longer than the buffer. -/
theorem run_refines {src len n} :
    ∀ (ops : List Op) (s : RState) (a : AState) (g : Ghost) (outs : List Out),
      Inv2 src len n s a g → aRun src len n a ops = some outs → cRun src len n s ops = outs := by
  intro ops
  induction ops with
  | nil => intro s a g outs _ h; cases h; rfl
  | cons op ops ih =>
    intro s a g outs hinv h
    simp only [aRun] at h
    split at h
    · cases h
    · rename_i o a' hst
      obtain ⟨outs', hrec, rfl⟩ := Option.map_eq_some_iff.mp h
      obtain ⟨e1, g', hinv'⟩ := step_refines hinv op hst
      simp only [cRun, e1, ih _ a' g' outs' hinv' hrec]

/-- from a fresh reader -/
theorem reader_is_stream {src len n} (hn : 0 < n) (buf0 : Nat → Nat) (ops : List Op)
    (outs : List Out) (h : aRun src len n ⟨0, 0, 0⟩ ops = some outs) :
    cRun src len n (init src len n buf0) ops = outs :=
  run_refines ops _ _ _ outs (init_inv2 src len n buf0 hn) h

end Emerge.Reader
