import Emerge.Proofs.Follow
/-
  The other half of the correctness of the followpos sets: in a tree whose leaves carry distinct positions, every path
  through the position automaton (start in `firstPos`, step along the follow relation, end in `lastPos`, every
  element a leaf) is a marked word of the tree - the automaton accepts no string outside the language.
-/
namespace Emerge.Props.C10
open Emerge Emerge.Regex Emerge.Regex.Follow

/-! ### positions of a tree; trees with distinct positions -/

mutual
def poses : Node → List Nat
  | .concat xs => posesList xs
  | .alt xs => posesList xs
  | .star x => poses x
  | .empty => []
  | .char _ p => [p]
def posesList : List Node → List Nat
  | [] => []
  | x :: xs => poses x ++ posesList xs
end

mutual
/-- every leaf carries a position of its own -/
def Lin : Node → Prop
  | .concat xs => LinList xs
  | .alt xs => LinList xs
  | .star x => Lin x
  | .empty => True
  | .char _ _ => True
def LinList : List Node → Prop
  | [] => True
  | x :: xs => Lin x ∧ (∀ p, p ∈ poses x → p ∉ posesList xs) ∧ LinList xs
end

theorem posesList_eq (xs : List Node) : posesList xs = xs.flatMap poses := by
  induction xs with
  | nil => rfl
  | cons x xs ih => simp only [posesList, ih, List.flatMap_cons]

theorem mem_posesList_of_mem {x : Node} {xs : List Node} (hx : x ∈ xs) {p : Nat} (hp : p ∈ poses x) : p ∈ posesList xs :=
  posesList_eq xs ▸ List.mem_flatMap.mpr ⟨x, hx, hp⟩

/-- the positions of a tree are those of its leaves -/
theorem poses_eq_map_leaves : ∀ n : Node, poses n = (leaves n).map (·.1) := by
  have list : ∀ xs : List Node, (∀ x ∈ xs, poses x = (leaves x).map (·.1)) → posesList xs = (leavesList xs).map (·.1) := by
    intro xs ih
    induction xs with
    | nil => rfl
    | cons x xs ihx =>
      have ⟨hx, hxs⟩ := List.forall_mem_cons.mp ih
      rw [posesList, leavesList, List.map_append, hx, ihx hxs]
  exact Node.induct list list (fun x ih => ih) rfl (fun c p => rfl)

theorem leaves_poses (n : Node) (a : Nat × Rune) (h : a ∈ leaves n) : a.1 ∈ poses n :=
  poses_eq_map_leaves n ▸ List.mem_map_of_mem h

theorem leavesList_poses (xs : List Node) (a : Nat × Rune) (h : a ∈ leavesList xs) : a.1 ∈ posesList xs :=
  leaves_poses (.concat xs) a h

theorem exists_of_mem_lastConcat {xs : List Node} {p : Nat} (h : p ∈ lastConcat xs) : ∃ x ∈ xs, p ∈ x.lastPos := by
  induction xs with
  | nil => simp [lastConcat] at h
  | cons x xs ih =>
    have tail : p ∈ lastConcat xs → ∃ y ∈ x :: xs, p ∈ y.lastPos := fun h =>
      (ih h).imp fun y hy => ⟨List.mem_cons_of_mem _ hy.1, hy.2⟩
    simp only [lastConcat] at h
    split at h
    · exact (List.mem_append.mp h).elim (fun h => ⟨x, List.mem_cons_self, h⟩) tail
    · exact tail h

theorem first_sub : ∀ (n : Node) (p : Nat), p ∈ n.firstPos → p ∈ poses n := by
  refine Node.induct (fun xs ih p h => ?_) (fun xs ih p h => ?_) (fun x ih => ih) (fun p h => nomatch h) (fun c p0 p h => h)
  · obtain ⟨pre, y, post, rfl, -, hy⟩ := mem_firstConcat.mp h
    exact mem_posesList_of_mem (by simp) (ih y (by simp) p hy)
  · rw [Node.firstPos, firstAlt_eq] at h
    obtain ⟨x, hx, h⟩ := List.mem_flatMap.mp h
    exact mem_posesList_of_mem hx (ih x hx p h)

theorem last_sub : ∀ (n : Node) (p : Nat), p ∈ n.lastPos → p ∈ poses n := by
  refine Node.induct (fun xs ih p h => ?_) (fun xs ih p h => ?_) (fun x ih => ih) (fun p h => nomatch h) (fun c p0 p h => h)
  · obtain ⟨x, hx, h⟩ := exists_of_mem_lastConcat h
    exact mem_posesList_of_mem hx (ih x hx p h)
  · rw [Node.lastPos, lastAlt_eq] at h
    obtain ⟨x, hx, h⟩ := List.mem_flatMap.mp h
    exact mem_posesList_of_mem hx (ih x hx p h)


theorem Cross_sub {xs : List Node} {p q : Nat} (h : Cross xs p q) : p ∈ posesList xs ∧ q ∈ posesList xs := by
  obtain ⟨a, x, pre, y, post, rfl, _, hp, hq⟩ := h
  exact ⟨mem_posesList_of_mem (by simp) (last_sub x p hp), mem_posesList_of_mem (by simp) (first_sub y q hq)⟩

/-- the follow relation relates positions of the tree only -/
theorem Fol_sub : ∀ (n : Node) (p q : Nat), Fol n p q → p ∈ poses n ∧ q ∈ poses n := by
  have list : ∀ xs : List Node, (∀ x ∈ xs, ∀ p q, Fol x p q → p ∈ poses x ∧ q ∈ poses x) →
      ∀ p q, FolList xs p q → p ∈ posesList xs ∧ q ∈ posesList xs := by
    intro xs ih p q h
    obtain ⟨x, hx, h⟩ := (folList_iff xs p q).mp h
    exact ⟨mem_posesList_of_mem hx (ih x hx p q h).1, mem_posesList_of_mem hx (ih x hx p q h).2⟩
  refine Node.induct (fun xs ih p q h => ?_) list (fun x ih p q h => ?_) (fun p q h => nomatch h) (fun c p0 p q h => nomatch h)
  · exact h.elim (list xs ih p q) Cross_sub
  · exact h.elim (ih p q) fun h => ⟨last_sub x p h.1, first_sub x q h.2⟩

theorem FolList_sub (xs : List Node) (p q : Nat) : FolList xs p q → p ∈ posesList xs ∧ q ∈ posesList xs := Fol_sub (.alt xs) p q

/-! ### paths -/

/-- a non-empty sequence of leaves that starts in `first`, ends in `last` and steps along `R` -/
structure IsPath (first last : Poses) (R : Nat → Nat → Prop) (lv : List (Nat × Rune)) (m : MWord) : Prop where
  ne : m ≠ []
  hd : ∀ a rest, m = a :: rest → a.1 ∈ first
  lt : ∀ init a, m = init ++ [a] → a.1 ∈ last
  adj : ∀ p q, Adj m p q → R p q
  lvs : ∀ a, a ∈ m → a ∈ lv

theorem IsPath.imp {f l f' l' : Poses} {R R' : Nat → Nat → Prop} {lv lv' : List (Nat × Rune)} {m : MWord}
    (h : IsPath f l R lv m) (hf : ∀ a ∈ m, a.1 ∈ f → a.1 ∈ f') (hl : ∀ a ∈ m, a.1 ∈ l → a.1 ∈ l')
    (hR : ∀ p q, Adj m p q → R p q → R' p q) (hlv : ∀ a ∈ m, a ∈ lv → a ∈ lv') : IsPath f' l' R' lv' m :=
  ⟨h.ne, fun a rest e => hf a (e ▸ List.mem_cons_self) (h.hd a rest e),
   fun init a e => hl a (e ▸ List.mem_append_right _ List.mem_cons_self) (h.lt init a e),
   fun p q ha => hR p q ha (h.adj p q ha), fun a ha => hlv a ha (h.lvs a ha)⟩

/-- a non-empty initial part of a path is a path to wherever it ends -/
theorem IsPath.prefix {f l l' : Poses} {R : Nat → Nat → Prop} {lv : List (Nat × Rune)} {u v : MWord}
    (h : IsPath f l R lv (u ++ v)) (hu : u ≠ []) (hl : ∀ init a, u = init ++ [a] → a.1 ∈ l') : IsPath f l' R lv u :=
  ⟨hu, fun a rest e => h.hd a (rest ++ v) (by rw [e]; rfl), hl, fun p q ha => h.adj p q (adj_left v ha),
   fun a ha => h.lvs a (List.mem_append_left _ ha)⟩

/-- a non-empty final part of a path is a path from wherever it starts -/
theorem IsPath.suffix {f f' l : Poses} {R : Nat → Nat → Prop} {lv : List (Nat × Rune)} {u v : MWord}
    (h : IsPath f l R lv (u ++ v)) (hv : v ≠ []) (hf : ∀ a rest, v = a :: rest → a.1 ∈ f') : IsPath f' l R lv v :=
  ⟨hv, hf, fun init a e => h.lt (u ++ init) a (by rw [e, List.append_assoc]), fun p q ha => h.adj p q (adj_right u ha),
   fun a ha => h.lvs a (List.mem_append_right _ ha)⟩

/-- a walk that starts in a set closed under its steps stays in it -/
theorem walk_closed (S : Nat → Prop) : ∀ (m : MWord), (∀ a rest, m = a :: rest → S a.1) →
    (∀ p q, Adj m p q → S p → S q) → ∀ a, a ∈ m → S a.1 := by
  intro m
  induction m with
  | nil => intro _ _ a h; cases h
  | cons x m ih =>
    intro hhd hstep a ha
    have hx : S x.1 := hhd x m rfl
    rcases List.mem_cons.mp ha with rfl | ha
    · exact hx
    · refine ih ?_ (fun p q hadj => hstep p q (adj_right [x] hadj)) a ha
      rintro b rest rfl
      exact hstep x.1 b.1 ⟨[], rest, x.2, b.2, rfl⟩ hx

/-- the node-level statement the list-level lemmas are given for their operands -/
def LocalAt (x : Node) : Prop := ∀ m, IsPath x.firstPos x.lastPos (Fol x) (leaves x) m → Node.mlang x m

/-! ### the star: cutting a path into iterations -/

/-- `u ++ [a]` is the iteration under way: it steps along `Fol x` only. A step of the path that is in `Fol x` extends
    it; any other step leads from `lastPos` back to `firstPos` and starts the next iteration. -/
theorem star_local {x : Node} (hx : LocalAt x) : ∀ (v u : MWord) (a : Nat × Rune),
    (∀ p q, Adj (u ++ [a]) p q → Fol x p q) →
    IsPath x.firstPos x.lastPos (Fol (.star x)) (leaves x) (u ++ [a] ++ v) → MStar (Node.mlang x) (u ++ [a] ++ v) := by
  intro v
  induction v with
  | nil =>
    intro u a hadj hp
    rw [List.append_nil] at hp ⊢
    have := hx _ (hp.imp (fun _ _ h => h) (fun _ _ h => h) (fun p q ha _ => hadj p q ha) (fun _ _ h => h))
    simpa using MStar.app _ [] this .nil
  | cons b v ih =>
    intro u a hadj hp
    have hab : Fol x a.1 b.1 ∨ (a.1 ∈ x.lastPos ∧ b.1 ∈ x.firstPos) := by
      simpa only [Fol] using hp.adj a.1 b.1 (adj_cross u v a.1 b.1 a.2 b.2)
    rcases hab with hF | ⟨hla, hfb⟩
    · rw [show u ++ [a] ++ b :: v = (u ++ [a]) ++ [b] ++ v by simp] at hp ⊢
      refine ih (u ++ [a]) b (fun p q h => ?_) hp
      rcases adj_append h with h | h | ⟨u', c, v', d, eu, ev⟩
      · exact hadj p q h
      · exact absurd h (not_adj_single b p q)
      · obtain ⟨-, ⟨⟩⟩ := List.append_inj' eu rfl
        obtain ⟨⟨⟩, -⟩ := List.cons.inj ev
        exact hF
    · have hu : Node.mlang x (u ++ [a]) := by
        refine hx _ ((hp.prefix (by simp) ?_).imp (fun _ _ h => h) (fun _ _ h => h) (fun p q ha _ => hadj p q ha) (fun _ _ h => h))
        rintro init a' e
        obtain ⟨-, ⟨⟩⟩ := List.append_inj' e rfl
        exact hla
      have hrest : MStar (Node.mlang x) ([] ++ [b] ++ v) :=
        ih [] b (fun p q h => absurd h (not_adj_single b p q)) (hp.suffix (by simp) (by rintro _ _ ⟨⟩; exact hfb))
      exact MStar.app _ _ hu hrest

/-! ### alternation: a path stays inside the operand it starts in -/

theorem lin_of_mem : ∀ {xs : List Node}, LinList xs → ∀ {x : Node}, x ∈ xs → Lin x := by
  intro xs
  induction xs with
  | nil => intro _ x hx; cases hx
  | cons y ys ih =>
    intro hl x hx
    rcases List.mem_cons.mp hx with rfl | hx
    · exact hl.1
    · exact ih hl.2.2 hx

/-- among operands with distinct positions, a position belongs to one operand only -/
theorem lin_unique : ∀ {xs : List Node}, LinList xs → ∀ {x y : Node}, x ∈ xs → y ∈ xs →
    ∀ {p : Nat}, p ∈ poses x → p ∈ poses y → x = y := by
  intro xs
  induction xs with
  | nil => intro _ x y hx; cases hx
  | cons z zs ih =>
    rintro ⟨-, D, hl⟩ x y hx hy p hpx hpy
    rcases List.mem_cons.mp hx with rfl | hx' <;> rcases List.mem_cons.mp hy with rfl | hy'
    · rfl
    · exact absurd (mem_posesList_of_mem hy' hpy) (D p hpx)
    · exact absurd (mem_posesList_of_mem hx' hpx) (D p hpy)
    · exact ih hl hx' hy' hpx hpy

/-- distinct positions, as a property of the list of positions -/
theorem lin_nodup : ∀ n : Node, Lin n → (poses n).Nodup := by
  have list : ∀ xs : List Node, (∀ x ∈ xs, Lin x → (poses x).Nodup) → LinList xs → (posesList xs).Nodup := by
    intro xs ih
    induction xs with
    | nil => exact fun _ => List.nodup_nil
    | cons x xs ihx =>
      have ⟨hx, hxs⟩ := List.forall_mem_cons.mp ih
      rintro ⟨hlx, D, hl⟩
      exact List.nodup_append.mpr ⟨hx hlx, ihx hxs hl, fun p hp q hq e => D p hp (e ▸ hq)⟩
  exact Node.induct list list (fun x ih => ih) (fun _ => List.nodup_nil) (fun c p _ => List.pairwise_singleton _ p)

theorem alt_local (xs : List Node) (hl : LinList xs) (hloc : ∀ x, x ∈ xs → LocalAt x) (m : MWord)
    (hp : IsPath (firstAlt xs) (lastAlt xs) (FolList xs) (leavesList xs) m) : mlangAlt xs m := by
  obtain ⟨a, tl, rfl⟩ := List.exists_cons_of_ne_nil hp.ne
  obtain ⟨x, hx, hax⟩ := List.mem_flatMap.mp (firstAlt_eq xs ▸ hp.hd a tl rfl)
  -- the path starts in `x` and its steps lead from `x` into `x`
  have hin : ∀ b, b ∈ a :: tl → b.1 ∈ poses x := by
    apply walk_closed (· ∈ poses x)
    · rintro b _ ⟨⟩; exact first_sub x _ hax
    · intro p q hadj hpx
      obtain ⟨y, hy, h⟩ := (folList_iff xs p q).mp (hp.adj p q hadj)
      obtain rfl := lin_unique hl hx hy hpx (Fol_sub y p q h).1
      exact (Fol_sub x p q h).2
  -- so whichever operand a first, last or follow set or a leaf of the path comes from, it is `x`
  have own : ∀ {y : Node}, y ∈ xs → ∀ {b : Nat × Rune}, b ∈ a :: tl → b.1 ∈ poses y → y = x :=
    fun hy _ hb hby => lin_unique hl hy hx hby (hin _ hb)
  refine (mlangAlt_iff xs _).mpr ⟨x, hx, hloc x hx _ ⟨hp.ne, ?_, ?_, ?_, ?_⟩⟩
  · rintro b _ ⟨⟩; exact hax
  · intro init b e
    obtain ⟨y, hy, h⟩ := List.mem_flatMap.mp (lastAlt_eq xs ▸ hp.lt init b e)
    obtain rfl := own hy (e ▸ List.mem_append_right _ List.mem_cons_self) (last_sub y _ h)
    exact h
  · intro p q hadj
    obtain ⟨y, hy, h⟩ := (folList_iff xs p q).mp (hp.adj p q hadj)
    obtain ⟨u, v, c, d, e⟩ := hadj
    obtain rfl := own hy (b := (p, c)) (e ▸ List.mem_append_right _ List.mem_cons_self) (Fol_sub y p q h).1
    exact h
  · intro b hb
    obtain ⟨y, hy, h⟩ := List.mem_flatMap.mp (leavesList_eq xs ▸ hp.lvs b hb)
    obtain rfl := own hy hb (leaves_poses y b h)
    exact h

/-! ### concatenation: a path runs through the operands from left to right -/

/-- the relation a concatenation's path steps along -/
def RCat (xs : List Node) (p q : Nat) : Prop := FolList xs p q ∨ Cross xs p q

/-- a step of the path of `x :: rest` is a step inside `x`, a step inside the rest, or crosses from `x` into the rest -/
theorem rcat_cons {x : Node} {rest : List Node} {p q : Nat} (h : RCat (x :: rest) p q) :
    (Fol x p q ∧ p ∈ poses x ∧ q ∈ poses x) ∨ (RCat rest p q ∧ p ∈ posesList rest ∧ q ∈ posesList rest) ∨
    ((p ∈ x.lastPos ∧ q ∈ firstConcat rest) ∧ p ∈ poses x ∧ q ∈ posesList rest) := by
  rw [RCat, FolList, cross_cons] at h
  rcases h with (h | h) | h | h
  · exact Or.inl ⟨h, Fol_sub x p q h⟩
  · exact Or.inr (Or.inl ⟨Or.inl h, FolList_sub rest p q h⟩)
  · exact Or.inr (Or.inr ⟨h, last_sub x p h.1, first_sub (.concat rest) q h.2⟩)
  · exact Or.inr (Or.inl ⟨Or.inr h, Cross_sub h⟩)

section operand
variable {x : Node} {rest : List Node} (D : ∀ p, p ∈ poses x → p ∉ posesList rest)
include D

theorem not_rest_of_x {p : Nat} (h : p ∈ poses x) : p ∉ posesList rest := D p h

theorem R_x {p q : Nat} (hp : p ∈ poses x) (hq : q ∈ poses x) (h : RCat (x :: rest) p q) : Fol x p q := by
  rcases rcat_cons h with h | h | h
  · exact h.1
  · exact absurd h.2.1 (D p hp)
  · exact absurd h.2.2 (D q hq)

theorem R_rest {p q : Nat} (hp : p ∈ posesList rest) (h : RCat (x :: rest) p q) : RCat rest p q ∧ q ∈ posesList rest := by
  rcases rcat_cons h with h | h | h
  · exact absurd hp (D p h.2.1)
  · exact ⟨h.1, h.2.2⟩
  · exact absurd hp (D p h.2.1)

theorem R_cross {p q : Nat} (hp : p ∈ poses x) (hq : q ∈ posesList rest) (h : RCat (x :: rest) p q) :
    p ∈ x.lastPos ∧ q ∈ firstConcat rest := by
  rcases rcat_cons h with h | h | h
  · exact absurd hq (D q h.2.2)
  · exact absurd h.2.1 (D p hp)
  · exact h.1

theorem first_x {p : Nat} (hp : p ∈ poses x) (h : p ∈ firstConcat (x :: rest)) : p ∈ x.firstPos :=
  (mem_firstConcat_cons.mp h).resolve_right fun h => D p hp (first_sub (.concat rest) p h.2)

theorem first_rest {p : Nat} (hp : p ∈ posesList rest) (h : p ∈ firstConcat (x :: rest)) :
    x.nullable = true ∧ p ∈ firstConcat rest :=
  (mem_firstConcat_cons.mp h).resolve_left fun h => D p (first_sub x p h) hp

theorem last_x {p : Nat} (hp : p ∈ poses x) (h : p ∈ lastConcat (x :: rest)) : allNullable rest = true ∧ p ∈ x.lastPos :=
  (mem_lastConcat_cons.mp h).resolve_left fun h => D p hp (last_sub (.concat rest) p h)

theorem last_rest {p : Nat} (hp : p ∈ posesList rest) (h : p ∈ lastConcat (x :: rest)) : p ∈ lastConcat rest :=
  (mem_lastConcat_cons.mp h).resolve_right fun h => D p (last_sub x p h.2) hp

theorem leaf_x {a : Nat × Rune} (hp : a.1 ∈ poses x) (h : a ∈ leavesList (x :: rest)) : a ∈ leaves x :=
  (List.mem_append.mp h).resolve_right fun h => D a.1 hp (leavesList_poses rest a h)

theorem leaf_rest {a : Nat × Rune} (hp : a.1 ∈ posesList rest) (h : a ∈ leavesList (x :: rest)) : a ∈ leavesList rest :=
  (List.mem_append.mp h).resolve_left fun h => D a.1 (leaves_poses x a h) hp

end operand

/-- split a sequence where it first leaves a set -/
theorem split_leave (P : Nat × Rune → Prop) [DecidablePred P] : ∀ (m : MWord),
    ∃ u v, m = u ++ v ∧ (∀ a, a ∈ u → P a) ∧ (∀ b rest, v = b :: rest → ¬ P b) := by
  intro m
  induction m with
  | nil => exact ⟨[], [], rfl, fun _ h => (nomatch h), fun _ _ h => (nomatch h)⟩
  | cons x m ih =>
    by_cases hx : P x
    · obtain ⟨u, v, rfl, hu, hv⟩ := ih
      exact ⟨x :: u, v, rfl, fun a ha => (List.mem_cons.mp ha).elim (· ▸ hx) (hu a), hv⟩
    · exact ⟨[], x :: m, rfl, fun _ h => (nomatch h), by rintro _ _ ⟨⟩; exact hx⟩

theorem cat_local : ∀ (xs : List Node), LinList xs → (∀ x, x ∈ xs → LocalAt x) →
    ∀ m, ((m = [] ∧ allNullable xs = true) ∨ IsPath (firstConcat xs) (lastConcat xs) (RCat xs) (leavesList xs) m) →
      mlangCat xs m := by
  intro xs
  induction xs with
  | nil =>
    rintro - - m (⟨rfl, -⟩ | hp)
    · rfl
    · obtain ⟨a, rest, rfl⟩ := List.exists_cons_of_ne_nil hp.ne
      exact nomatch hp.hd a rest rfl
  | cons x rest ih =>
    rintro ⟨-, D, hlr⟩ hloc m h
    have ihr := ih hlr fun y hy => hloc y (List.mem_cons_of_mem _ hy)
    rcases h with ⟨rfl, hn⟩ | hp
    · simp only [allNullable, Bool.and_eq_true] at hn
      exact ⟨[], [], rfl, (mlang_nil_iff x).mpr hn.1, ihr [] (Or.inl ⟨rfl, hn.2⟩)⟩
    · -- `u`: the path while it is inside `x`; `v`: from its first position outside `x` on, all of it in the rest
      obtain ⟨u, v, rfl, hu, hv⟩ := split_leave (fun a => a.1 ∈ poses x) m
      have hvin : ∀ b, b ∈ v → b.1 ∈ posesList rest := by
        apply walk_closed (· ∈ posesList rest)
        · intro b tl e
          have hb := hp.lvs b (List.mem_append_right _ (e ▸ List.mem_cons_self))
          exact leavesList_poses rest b ((List.mem_append.mp hb).resolve_left fun h => hv b tl e (leaves_poses x b h))
        · intro p q hadj hpr
          exact (R_rest D hpr (hp.adj p q (adj_right u hadj))).2
      -- each half is a path of its own, given where `u` ends and where `v` starts
      have pu : u ≠ [] → (∀ init a, u = init ++ [a] → a.1 ∈ x.lastPos) → Node.mlang x u := fun hne hl =>
        hloc x List.mem_cons_self u ((hp.prefix hne hl).imp (fun a ha h => first_x D (hu a ha) h) (fun _ _ h => h)
          (fun p q ⟨u', v', c, d, e⟩ h =>
            R_x D (hu (p, c) (e ▸ by simp)) (hu (q, d) (e ▸ by simp)) h)
          (fun a ha h => leaf_x D (hu a ha) h))
      have pv : v ≠ [] → (∀ a tl, v = a :: tl → a.1 ∈ firstConcat rest) → mlangCat rest v := fun hne hf =>
        ihr v (Or.inr ((hp.suffix hne hf).imp (fun _ _ h => h) (fun a ha h => last_rest D (hvin a ha) h)
          (fun p q ⟨u', v', c, d, e⟩ h => (R_rest D (hvin (p, c) (e ▸ by simp)) h).1)
          (fun a ha h => leaf_rest D (hvin a ha) h)))
      rcases List.eq_nil_or_concat u with rfl | ⟨u0, a, rfl⟩
      · -- `x` is skipped: it must be nullable
        obtain ⟨b, v', rfl⟩ := List.exists_cons_of_ne_nil (by simpa using hp.ne : v ≠ [])
        have hf := first_rest D (hvin b List.mem_cons_self) (hp.hd b v' rfl)
        exact ⟨[], _, rfl, (mlang_nil_iff x).mpr hf.1, pv (by simp) (by rintro _ _ ⟨⟩; exact hf.2)⟩
      · rw [List.concat_eq_append] at hu hp pu ⊢
        have hax : a.1 ∈ poses x := hu a (by simp)
        have ends : a.1 ∈ x.lastPos → ∀ init a', u0 ++ [a] = init ++ [a'] → a'.1 ∈ x.lastPos := by
          rintro h init a' e
          obtain ⟨-, ⟨⟩⟩ := List.append_inj' e rfl
          exact h
        cases v with
        | nil =>
          -- the whole path lies in `x`; the rest is skipped
          have hla := last_x D hax (hp.lt u0 a (by simp))
          exact ⟨_, [], rfl, pu (by simp) (ends hla.2), ihr [] (Or.inl ⟨rfl, hla.1⟩)⟩
        | cons b v' =>
          -- the path crosses from `x` into the rest
          have hc := R_cross D hax (hvin b List.mem_cons_self) (hp.adj a.1 b.1 (adj_cross u0 v' a.1 b.1 a.2 b.2))
          exact ⟨_, _, rfl, pu (by simp) (ends hc.1), pv (by simp) (by rintro _ _ ⟨⟩; exact hc.2)⟩

/-! ### the local-language theorem -/

/-- **Every path is a marked word** (trees with distinct positions) -/
theorem local_lang : ∀ n : Node, Lin n → LocalAt n := by
  refine Node.induct (fun xs ih hl m hp => ?_) (fun xs ih hl m hp => ?_) (fun x ih hl m hp => ?_)
    (fun _ m hp => ?_) (fun c p _ m hp => ?_)
  · exact cat_local xs hl (fun x hx => ih x hx (lin_of_mem hl hx)) m (Or.inr hp)
  · exact alt_local xs hl (fun x hx => ih x hx (lin_of_mem hl hx)) m hp
  · obtain ⟨a, tl, rfl⟩ := List.exists_cons_of_ne_nil hp.ne
    exact star_local (ih hl) tl [] a (fun p q h => absurd h (not_adj_single a p q)) hp
  · obtain ⟨a, tl, rfl⟩ := List.exists_cons_of_ne_nil hp.ne
    exact nomatch hp.hd a tl rfl
  · obtain ⟨a, tl, rfl⟩ := List.exists_cons_of_ne_nil hp.ne
    obtain rfl : a = (p, c) := List.mem_singleton.mp (hp.lvs a List.mem_cons_self)
    cases tl with
    | nil => rfl
    | cons b tl' => exact nomatch hp.adj p b.1 ⟨[], tl', c, b.2, rfl⟩

/-! ### the position automaton accepts exactly the marked language -/

theorem mlang_leaves : ∀ (n : Node) (m : MWord), Node.mlang n m → ∀ a, a ∈ m → a ∈ leaves n := by
  refine Node.induct (fun xs ih => ?_) (fun xs ih m h a ha => ?_) (fun x ih m h => ?_) (fun m h a ha => ?_) (fun c p m h a ha => ?_)
  · induction xs with
    | nil => rintro m rfl a ha; cases ha
    | cons x xs ihx =>
      have ⟨hx, hxs⟩ := List.forall_mem_cons.mp ih
      rintro m ⟨u, v, rfl, hu, hv⟩ a ha
      rw [leaves, leavesList, List.mem_append]
      exact (List.mem_append.mp ha).imp (hx u hu a) (ihx hxs v hv a)
  · obtain ⟨x, hx, h⟩ := (mlangAlt_iff xs m).mp h
    rw [leaves, leavesList_eq]
    exact List.mem_flatMap.mpr ⟨x, hx, ih x hx m h a ha⟩
  · induction h with
    | nil => intro a ha; cases ha
    | app u v hu _ ihv => intro a ha; exact (List.mem_append.mp ha).elim (ih u hu a) (ihv a)
  · subst h; cases ha
  · subst h; exact ha

theorem mlangCat_leaves : (xs : List Node) → (m : MWord) → mlangCat xs m → ∀ a, a ∈ m → a ∈ leavesList xs :=
  fun xs => mlang_leaves (.concat xs)

theorem mlangAlt_leaves : (xs : List Node) → (m : MWord) → mlangAlt xs m → ∀ a, a ∈ m → a ∈ leavesList xs :=
  fun xs => mlang_leaves (.alt xs)

/-- a run of the position automaton the code builds: leaves only, starting in `firstPos`, stepping along the follow sets
    `computeFollows` computes from the empty map, ending in `lastPos` -/
def Accepting (n : Node) (m : MWord) : Prop :=
  IsPath n.firstPos n.lastPos (fun p q => q ∈ (computeFollows [] n).get p) (leaves n) m

/-- **The position automaton accepts exactly the language** (trees whose leaves carry distinct positions): a non-empty
    sequence of leaves is an accepting run iff it is a marked word of the tree; the empty word is in the language iff
    the tree is nullable. -/
theorem position_automaton (n : Node) (hl : Lin n) (m : MWord) (hne : m ≠ []) : Accepting n m ↔ Node.mlang n m := by
  constructor
  · intro h
    exact local_lang n hl m ⟨h.ne, h.hd, h.lt, fun p q ha => computed_follow_is_Fol n p q (h.adj p q ha), h.lvs⟩
  · intro h
    refine ⟨hne, ?_, ?_, ?_, mlang_leaves n m h⟩
    · intro a rest e; exact first_sound n a rest (e ▸ h)
    · intro init a e; exact last_sound n init a (e ▸ h)
    · intro p q ha; exact follow_sound n m h p q ha []

/-- … in terms of strings: a string is in the language of the tree iff it is empty and the tree nullable, or it is
    spelled by an accepting run -/
theorem position_automaton_lang (n : Node) (hl : Lin n) (w : List Rune) :
    Node.lang n w ↔ (w = [] ∧ n.nullable = true) ∨ ∃ m, Accepting n m ∧ m.map (·.2) = w := by
  constructor
  · intro h
    obtain ⟨m, hm, e⟩ := mlang_lift n w h
    by_cases hmn : m = []
    · subst hmn
      left
      exact ⟨by simpa using e.symm, (mlang_nil_iff n).mp hm⟩
    · right
      exact ⟨m, (position_automaton n hl m hmn).mpr hm, e⟩
  · rintro (⟨rfl, hn⟩ | ⟨m, hacc, e⟩)
    · exact (nullable_iff_lang n).mp hn
    · rw [← e]
      exact mlang_erase n m ((position_automaton n hl m hacc.ne).mp hacc)

/-! ### `indexChars` gives every leaf a position of its own -/

theorem indexList_range_of {xs : List Node}
    (ih : ∀ x ∈ xs, ∀ k, k ≤ (index k x).2 ∧ (∀ p, p ∈ poses (index k x).1 → k ≤ p ∧ p < (index k x).2) ∧ Lin (index k x).1) :
    ∀ k, k ≤ (indexList k xs).2 ∧ (∀ p, p ∈ posesList (indexList k xs).1 → k ≤ p ∧ p < (indexList k xs).2) ∧
      LinList (indexList k xs).1 := by
  induction xs with
  | nil => intro k; simp [indexList, posesList, LinList]
  | cons x xs ihx =>
    have ⟨hx, hxs⟩ := List.forall_mem_cons.mp ih
    intro k
    obtain ⟨h1, h2, h3⟩ := hx k
    obtain ⟨g1, g2, g3⟩ := ihx hxs (index k x).2
    simp only [indexList, posesList, LinList, List.mem_append]
    refine ⟨by omega, ?_, h3, ?_, g3⟩
    · rintro p (hp | hp)
      · have := h2 p hp; omega
      · have := g2 p hp; omega
    · intro p hp hq
      have a := h2 p hp
      have b := g2 p hq
      omega

/-- numbering from `k` on uses the positions `k … k' - 1`, each once -/
theorem index_range : ∀ (n : Node) (k : Nat),
    k ≤ (index k n).2 ∧ (∀ p, p ∈ poses (index k n).1 → k ≤ p ∧ p < (index k n).2) ∧ Lin (index k n).1 := by
  refine Node.induct (fun xs ih => indexList_range_of ih) (fun xs ih => indexList_range_of ih) (fun x ih => ih)
    (fun k => ?_) (fun c p0 k => ?_)
  · simp [index, poses, Lin]
  · simp only [index, poses, Lin, List.mem_singleton]
    exact ⟨by omega, fun p hp => by omega, trivial⟩

theorem indexList_range : (xs : List Node) → (k : Nat) →
    k ≤ (indexList k xs).2 ∧ (∀ p, p ∈ posesList (indexList k xs).1 → k ≤ p ∧ p < (indexList k xs).2) ∧
      LinList (indexList k xs).1 :=
  fun xs => index_range (.concat xs)

/-- the tree `ast.Parse` hands to `ToDFA` (pattern, end marker, positions assigned) has distinct positions -/
theorem build_lin (T : ClassTable) (p : Pat) : Lin (build T p).root := (index_range _ 1).2.2

end Emerge.Props.C10
