import Emerge.LR
/-
  The LR driver as a state machine, for arbitrary tables. An iteration either stops where it stands (ACCEPT, or no
  ACTION entry) or moves to a new configuration and announces the move by one callback (`step_spec`); callbacks and lexer
  only decide whether the run goes on after a move (`outcome`). From this: the error position never moves backwards,
  behaviour up to an error depends only on the input up to and including the offending token, and a failing callback
  stops the run exactly there.
-/
namespace Emerge.LR

/-- the state a reduction to `A` pushes on the stack `st` left by the pops -/
def gotoOn (T : Tables) (A : Nat) (st : List (Option Nat)) : Option Nat :=
  match st.head? with
  | none => T.goto 0 A
  | some none => none
  | some (some t) => T.goto t A

@[simp] theorem gotoOn_cons_some (T : Tables) (A t : Nat) (st : List (Option Nat)) :
    gotoOn T A (some t :: st) = T.goto t A := rfl

/-- The moves of the automaton on look-ahead `a`: SHIFT and REDUCE. -/
inductive Move (T : Tables) (a : Nat) : Config → Config → Prop where
  | shift {s s' : Nat} {st : List (Option Nat)} {i : Nat} {ev : List Event} (ha : T.action s a = .shift s') :
      Move T a ⟨some s :: st, i, ev⟩ ⟨some s' :: some s :: st, i + 1, .tok i :: ev⟩
  | reduce {s p A : Nat} {β : List Sym} {st : List (Option Nat)} {i : Nat} {ev : List Event}
      (ha : T.action s a = .reduce p) (hp : T.prods[p]? = some (A, β)) :
      Move T a ⟨some s :: st, i, ev⟩
        ⟨gotoOn T A (popN β.length (some s :: st)) :: popN β.length (some s :: st), i, .prod p :: ev⟩

section
variable {T : Tables} {w : List Nat} {f e : Option Nat} {a : Nat} {c c' : Config}

theorem Move.events (h : Move T a c c') : ∃ x, c'.events = x :: c.events := by
  cases h <;> exact ⟨_, rfl⟩

theorem Move.pos_le (h : Move T a c c') : c.pos ≤ c'.pos := by
  cases h <;> simp

/-- What follows the move from `c` to `c'`: the callback announcing it may fail, and if a token was consumed the lexer
    may fail to deliver the next one. -/
def outcome (f e : Option Nat) (c c' : Config) : Option Result :=
  if f = some c.events.length then some (.callbackError c.events.length)
  else if c'.pos ≠ c.pos ∧ e = some c'.pos then some (.inputError c'.pos) else none

/-- … and nothing else: no outcome looks like a verdict of the tables. -/
theorem outcome_eq_some {r : Result} (h : outcome f e c c' = some r) :
    (∃ k, r = .callbackError k) ∨ ∃ i, r = .inputError i := by
  unfold outcome at h
  split at h
  · exact .inl ⟨_, (Option.some.inj h).symm⟩
  · split at h
    · exact .inr ⟨_, (Option.some.inj h).symm⟩
    · cases h

theorem outcome_some (k : Nat) (e : Option Nat) (c c' : Config) :
    outcome (some k) e c c' = if c.events.length = k then some (.callbackError k) else outcome none e c c' := by
  by_cases h : c.events.length = k
  · simp [outcome, h]
  · simp [outcome, h, Ne.symm h]

/-- **What an iteration does**: it reports a syntax error at the look-ahead, or accepts, both without touching the
    configuration and whatever the callbacks do; or it makes a move, and `outcome` decides. -/
theorem step_spec (T : Tables) (w : List Nat) (c : Config) :
    (∃ st, ∀ f e, step T w f e c = (c, some (.syntaxError c.pos st))) ∨
    (∃ s rest, c.stack = some s :: rest ∧ T.action s (lookahead T w c.pos) = .accept ∧
      ∀ f e, step T w f e c = (c, some .accept)) ∨
    (∃ c', Move T (lookahead T w c.pos) c c' ∧ ∀ f e, step T w f e c = (c', outcome f e c c')) := by
  obtain ⟨stack, pos, events⟩ := c
  match stack with
  | [] => exact .inl ⟨none, fun _ _ => rfl⟩
  | none :: _ => exact .inl ⟨none, fun _ _ => rfl⟩
  | some s :: rest =>
    cases ha : T.action s (lookahead T w pos) with
    | error => exact .inl ⟨some s, fun _ _ => by simp only [step, List.head?_cons, ha]⟩
    | accept => exact .inr (.inl ⟨s, rest, rfl, ha, fun _ _ => by simp only [step, List.head?_cons, ha]⟩)
    | shift s' => exact .inr (.inr ⟨_, .shift ha, fun _ _ => by simp [step, ha, outcome]⟩)
    | reduce p =>
      cases hp : T.prods[p]? with
      | none => exact .inl ⟨none, fun _ _ => by simp only [step, List.head?_cons, ha, hp]⟩
      | some Aβ =>
        -- `rfl`: the `match` on the exposed state in `step` and the one in `gotoOn` differ in name only
        exact .inr (.inr ⟨_, .reduce ha hp, fun _ _ => by simp [step, ha, hp, outcome]; rfl⟩)

/-- `step` only looks at the input through the look-ahead at the current position. -/
theorem step_congr {w' : List Nat} (h : lookahead T w c.pos = lookahead T w' c.pos) :
    step T w f e c = step T w' f e c := by
  unfold step
  rw [h]

theorem step_none (h : step T w f e c = (c', none)) : Move T (lookahead T w c.pos) c c' := by
  obtain ⟨_, hs⟩ | ⟨_, _, _, _, hs⟩ | ⟨c'', hm, hs⟩ := step_spec T w c
  · rw [hs] at h; cases h
  · rw [hs] at h; cases h
  · rw [hs] at h; exact (Prod.mk.inj h).1 ▸ hm

theorem step_syntaxError {i : Nat} {st : Option Nat} (h : step T w f e c = (c', some (.syntaxError i st))) :
    c' = c ∧ i = c.pos := by
  obtain ⟨_, hs⟩ | ⟨_, _, _, _, hs⟩ | ⟨c'', _, hs⟩ := step_spec T w c
  · rw [hs] at h; cases h; exact ⟨rfl, rfl⟩
  · rw [hs] at h; cases h
  · rw [hs] at h
    obtain ⟨_, hr⟩ | ⟨_, hr⟩ := outcome_eq_some (Prod.mk.inj h).2 <;> cases hr

theorem step_accept (h : step T w f e c = (c', some .accept)) :
    c' = c ∧ ∃ s rest, c.stack = some s :: rest ∧ T.action s (lookahead T w c.pos) = .accept := by
  obtain ⟨_, hs⟩ | ⟨s, rest, hst, ha, hs⟩ | ⟨c'', _, hs⟩ := step_spec T w c
  · rw [hs] at h; cases h
  · rw [hs] at h; cases h; exact ⟨rfl, s, rest, hst, ha⟩
  · rw [hs] at h
    obtain ⟨_, hr⟩ | ⟨_, hr⟩ := outcome_eq_some (Prod.mk.inj h).2 <;> cases hr

/-! ### runs -/

theorem run_succ_none {n : Nat} (h : step T w f e c = (c', none)) : run T w f e (n + 1) c = run T w f e n c' := by
  simp only [run, h]

theorem run_succ_some {n : Nat} {r : Result} (h : step T w f e c = (c', some r)) :
    run T w f e (n + 1) c = (c'.events.reverse, r) := by
  simp only [run, h]

/-- **Invariant rule**: a run that does not end for lack of fuel ends with an iteration that stops, taken in a
    configuration at which everything holds that the iterations that go on preserve. -/
theorem run_last {P : Config → Prop} (hP : ∀ c c', P c → step T w f e c = (c', none) → P c') {ev : List Event}
    {r : Result} (hr : r ≠ .outOfFuel) :
    ∀ n c, P c → run T w f e n c = (ev, r) → ∃ c₀ c', P c₀ ∧ step T w f e c₀ = (c', some r) ∧ ev = c'.events.reverse
  | 0, c, _, h => by cases h; exact absurd rfl hr
  | n + 1, c, hc, h => by
    cases hs : step T w f e c with
    | mk c' r' =>
      cases r' with
      | none => rw [run_succ_none hs] at h; exact run_last hP hr n c' (hP c c' hc hs) h
      | some r' => rw [run_succ_some hs] at h; cases h; exact ⟨c, c', hc, hs, rfl⟩

/-- The reported error index is never before the current look-ahead. -/
theorem run_syntaxError_pos {n : Nat} {ev : List Event} {i : Nat} {st : Option Nat}
    (h : run T w f e n c = (ev, .syntaxError i st)) : c.pos ≤ i := by
  obtain ⟨c₀, c', hle, hs, -⟩ := run_last (P := fun c₀ => c.pos ≤ c₀.pos)
    (fun _ _ hle hs => Nat.le_trans hle (step_none hs).pos_le) (by simp) n c (Nat.le_refl _) h
  exact (step_syntaxError hs).2 ▸ hle

/-- **Nothing after the offending token influences a syntax error**: if two inputs agree up to
    and including position `i` and the run on the first reports a syntax error at `i`, the run on
    the second is identical (same callbacks, same error, same state). -/
theorem run_prefix_deterministic (T : Tables) (w w' : List Nat) (f e : Option Nat) (i : Nat)
    (hagree : ∀ j, j ≤ i → lookahead T w j = lookahead T w' j) :
    ∀ n c ev st, run T w f e n c = (ev, .syntaxError i st) → run T w' f e n c = (ev, .syntaxError i st) := by
  intro n
  induction n with
  | zero => intro c ev st h; exact h
  | succ n ih =>
    intro c ev st h
    have hs : step T w f e c = step T w' f e c := step_congr (hagree c.pos (run_syntaxError_pos h))
    cases hs' : step T w f e c with
    | mk c' r =>
      cases r with
      | none => rw [run_succ_none hs'] at h; rw [run_succ_none (hs ▸ hs')]; exact ih c' ev st h
      | some r => rw [run_succ_some hs'] at h; rw [run_succ_some (hs ▸ hs')]; exact h

theorem lookahead_append_left (T : Tables) (u : List Nat) (a : Nat) (v : List Nat) (j : Nat) (hj : j ≤ u.length) :
    lookahead T (u ++ a :: v) j = lookahead T (u ++ [a]) j := by
  unfold lookahead
  by_cases hlt : j < u.length
  · simp [List.getElem?_append_left hlt]
  · have : j = u.length := by omega
    subst this
    simp

theorem parse_eq_run (fuel : Nat) : parse T w f none fuel = run T w f none fuel init := rfl

/-- Nothing after the offending token influences the outcome: callbacks, error index and state are
    the same for every continuation of the input. -/
theorem parse_suffix_irrelevant (T : Tables) (u : List Nat) (a : Nat) (v v' : List Nat) (f : Option Nat) (fuel : Nat)
    (ev : List Event) (st : Option Nat)
    (h : parse T (u ++ a :: v) f none fuel = (ev, .syntaxError u.length st)) :
    parse T (u ++ a :: v') f none fuel = (ev, .syntaxError u.length st) := by
  rw [parse_eq_run] at h ⊢
  refine run_prefix_deterministic T _ _ f none u.length (fun j hj => ?_) fuel init ev st h
  rw [lookahead_append_left _ u a v j hj, lookahead_append_left _ u a v' j hj]

/-! ### events only grow; a failing callback cuts the run -/

theorem step_events {r : Option Result}
    (h : step T w f e c = (c', r)) : c'.events = c.events ∨ ∃ x, c'.events = x :: c.events := by
  obtain ⟨_, hs⟩ | ⟨_, _, _, _, hs⟩ | ⟨c'', hm, hs⟩ := step_spec T w c
  · rw [hs] at h; cases h; exact .inl rfl
  · rw [hs] at h; cases h; exact .inl rfl
  · rw [hs] at h; cases h; exact .inr hm.events

theorem run_events_prefix : ∀ n c, c.events.reverse <+: (run T w f e n c).1
  | 0, _ => List.prefix_refl _
  | n + 1, c => by
    cases hs : step T w f e c with
    | mk c' r =>
      have hpre : c.events.reverse <+: c'.events.reverse := by
        obtain h | ⟨x, h⟩ := step_events hs <;> simp [h]
      cases r with
      | none => rw [run_succ_none hs]; exact hpre.trans (run_events_prefix n c')
      | some r => rw [run_succ_some hs]; exact hpre

/-- One iteration under a failing callback: the same as without, unless it makes that very invocation. -/
theorem step_abort (T : Tables) (w : List Nat) (k : Nat) (e : Option Nat) (c : Config) (hc : c.events.length ≤ k) :
    step T w (some k) e c =
      if k < (step T w none e c).1.events.length then ((step T w none e c).1, some (.callbackError k))
      else step T w none e c := by
  obtain ⟨_, h⟩ | ⟨_, _, _, _, h⟩ | ⟨c', hm, h⟩ := step_spec T w c
  · rw [h, h, if_neg (Nat.not_lt.mpr hc)]
  · rw [h, h, if_neg (Nat.not_lt.mpr hc)]
  · obtain ⟨x, hx⟩ := hm.events
    rw [h, h, outcome_some]
    simp only [hx, List.length_cons]
    by_cases hk : c.events.length = k
    · rw [if_pos hk, if_pos (by omega)]
    · rw [if_neg hk, if_neg (by omega)]

end

/-- **An error returned by a callback stops the parse at that point**: the run in which callback
    invocation `k` fails makes exactly the first `k+1` invocations of the unfailing run and returns
    the callback's error; if the unfailing run makes fewer invocations nothing changes. -/
theorem run_abort (T : Tables) (w : List Nat) (k : Nat) (e : Option Nat) :
    ∀ n c, c.events.length ≤ k →
      run T w (some k) e n c =
        if k < (run T w none e n c).1.length then ((run T w none e n c).1.take (k + 1), .callbackError k)
        else run T w none e n c := by
  intro n
  induction n with
  | zero =>
    intro c hc
    simp only [run, List.length_reverse]
    rw [if_neg (by omega)]
  | succ n ih =>
    intro c hc
    have habort := step_abort T w k e c hc
    cases hs : step T w none e c with
    | mk c' r =>
      rw [hs] at habort
      have hle : c'.events.length ≤ c.events.length + 1 := by
        obtain h | ⟨x, h⟩ := step_events hs <;> simp [h]
      by_cases hk : k < c'.events.length
      · -- this iteration makes invocation `k`: the failing run stops, the other one has these events as a prefix
        rw [if_pos hk] at habort
        have hlen : c'.events.reverse.length = k + 1 := by rw [List.length_reverse]; omega
        obtain ⟨t, ht⟩ : c'.events.reverse <+: (run T w none e (n + 1) c).1 := by
          cases r with
          | none => rw [run_succ_none hs]; exact run_events_prefix n c'
          | some r => rw [run_succ_some hs]; exact List.prefix_refl _
        rw [run_succ_some habort, ← ht, if_pos (by rw [List.length_append, hlen]; omega), List.take_left' hlen]
      · rw [if_neg hk] at habort
        cases r with
        | none => rw [run_succ_none habort, run_succ_none hs]; exact ih c' (Nat.le_of_not_lt hk)
        | some r => rw [run_succ_some habort, run_succ_some hs, if_neg (by simpa using hk)]

/-- `run_abort` for a whole parse. -/
theorem parse_abort (T : Tables) (w : List Nat) (k : Nat) (e : Option Nat) (fuel : Nat) :
    parse T w (some k) e fuel =
      if k < (parse T w none e fuel).1.length then ((parse T w none e fuel).1.take (k + 1), .callbackError k)
      else parse T w none e fuel := by
  unfold parse
  split
  · rfl
  · exact run_abort T w k e fuel init (Nat.zero_le k)

end Emerge.LR
