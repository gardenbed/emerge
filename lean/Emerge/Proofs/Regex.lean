import Emerge.Regex.Lang
/-
  The languages of the pattern model. Languages with the same words are equal (`Lang.ext`), so the algebra is a set of
  equations used by rewriting; on it rest the derivative matcher (`Re.matchD_iff`: it decides `Re.lang`) and the
  NFA-route construction (`compileN_lang_fixed`: it has the documented language, under the contract of the dependency).
-/
namespace Emerge.Regex

/-- extensional equality of languages -/
def Lang.Eqv (a b : Lang) : Prop := ∀ w, a w ↔ b w
infix:50 " ≃ " => Lang.Eqv

namespace Lang

theorem ext {a b : Lang} (h : a ≃ b) : a = b := funext fun w => propext (h w)

theorem Eqv.of_eq {a b : Lang} (h : a = b) : a ≃ b := fun _ => h ▸ Iff.rfl

theorem cat_nil {a b : Lang} : cat a b [] ↔ a [] ∧ b [] := by
  constructor
  · rintro ⟨u, v, h, hu, hv⟩
    obtain ⟨rfl, rfl⟩ := List.nil_eq_append_iff.mp h
    exact ⟨hu, hv⟩
  · rintro ⟨hu, hv⟩; exact ⟨[], [], rfl, hu, hv⟩

theorem cat_eps_right (a : Lang) : cat a eps = a := by
  refine ext fun w => ⟨?_, fun h => ⟨w, [], (List.append_nil w).symm, h, rfl⟩⟩
  rintro ⟨u, v, rfl, hu, rfl⟩
  rwa [List.append_nil]

theorem cat_eps_left (a : Lang) : cat eps a = a := by
  refine ext fun w => ⟨?_, fun h => ⟨[], w, rfl, rfl, h⟩⟩
  rintro ⟨u, v, rfl, rfl, hv⟩
  exact hv

theorem cat_assoc (a b c : Lang) : cat (cat a b) c = cat a (cat b c) := by
  refine ext fun w => ⟨?_, ?_⟩
  · rintro ⟨_, x, rfl, ⟨u, v, rfl, hu, hv⟩, hx⟩
    exact ⟨u, v ++ x, List.append_assoc u v x, hu, v, x, rfl, hv, hx⟩
  · rintro ⟨u, _, rfl, hu, v, x, rfl, hv, hx⟩
    exact ⟨u ++ v, x, (List.append_assoc u v x).symm, ⟨u, v, rfl, hu, hv⟩, hx⟩

theorem union_empty (a : Lang) : union a empty = a := funext fun _ => or_false _

theorem set_nil : set [] = empty := ext fun _ => ⟨fun ⟨_, hr, _⟩ => (nomatch hr), False.elim⟩

theorem set_cons (r : Rune) (rs : List Rune) : set (r :: rs) = union (set [r]) (set rs) := by
  refine ext fun w => ⟨?_, ?_⟩
  · rintro ⟨x, hx, rfl⟩
    rcases List.mem_cons.mp hx with rfl | hx
    · exact .inl ⟨x, List.mem_singleton_self x, rfl⟩
    · exact .inr ⟨x, hx, rfl⟩
  · rintro (⟨x, hx, rfl⟩ | ⟨x, hx, rfl⟩)
    · exact ⟨x, List.mem_cons.mpr (.inl (List.mem_singleton.mp hx)), rfl⟩
    · exact ⟨x, List.mem_cons_of_mem r hx, rfl⟩

theorem set_congr {a b : List Rune} (h : ∀ r, r ∈ a ↔ r ∈ b) : set a = set b :=
  ext fun _ => ⟨fun ⟨r, hr, hw⟩ => ⟨r, (h r).mp hr, hw⟩, fun ⟨r, hr, hw⟩ => ⟨r, (h r).mpr hr, hw⟩⟩

theorem upto_eq_pow (a : Lang) (n : Nat) : upto a n = pow (union eps a) n := by
  induction n with
  | zero => rfl
  | succ n ih => exact congrArg (cat (union eps a)) ih

def catList : List Lang → Lang
  | [] => eps
  | a :: rest => cat a (catList rest)

theorem catList_append (xs ys : List Lang) : catList (xs ++ ys) = cat (catList xs) (catList ys) := by
  induction xs with
  | nil => exact (cat_eps_left _).symm
  | cons a xs ih => exact (congrArg (cat a) ih).trans (cat_assoc _ _ _).symm

theorem catList_replicate (a : Lang) (n : Nat) : catList (List.replicate n a) = pow a n := by
  induction n with
  | zero => rfl
  | succ n ih => exact congrArg (cat a) ih

/-- the documented meaning of a quantifier, on languages -/
def quant (a : Lang) : Quant → Lang
  | .opt => union eps a
  | .star => star a
  | .plus => cat a (star a)
  | .rep lo none => cat (pow a lo) (star a)
  | .rep lo (some u) => cat (pow a lo) (upto a (u - lo))

/-- The two operand lists `quantifyNFA` and `quantifyNode` build for `{n,}` and `{n,m}`. -/
theorem catList_rep_star (a : Lang) (lo : Nat) : catList (List.replicate lo a ++ [star a]) = quant a (.rep lo none) := by
  rw [catList_append, catList_replicate, catList, catList, cat_eps_right, quant]

theorem catList_rep_upto (a : Lang) (lo u : Nat) :
    catList (List.replicate lo a ++ List.replicate (u - lo) (union eps a)) = quant a (.rep lo (some u)) := by
  rw [catList_append, catList_replicate, catList_replicate, ← upto_eq_pow, quant]

def deriv (c : Rune) (a : Lang) : Lang := fun w => a (c :: w)

theorem deriv_eps (c : Rune) : deriv c eps = empty := ext fun _ => ⟨nofun, False.elim⟩

theorem deriv_set (c : Rune) (rs : List Rune) (w : List Rune) : deriv c (set rs) w ↔ c ∈ rs ∧ w = [] := by
  constructor
  · rintro ⟨r, hr, h⟩
    cases h
    exact ⟨hr, rfl⟩
  · rintro ⟨hr, rfl⟩
    exact ⟨c, hr, rfl⟩

theorem deriv_set_of_mem {c : Rune} {rs : List Rune} (h : c ∈ rs) : deriv c (set rs) = eps :=
  ext fun w => (deriv_set c rs w).trans (and_iff_right h)

theorem deriv_set_of_not_mem {c : Rune} {rs : List Rune} (h : c ∉ rs) : deriv c (set rs) = empty :=
  ext fun w => (deriv_set c rs w).trans (iff_false_intro fun h' => h h'.1)

theorem deriv_cat (c : Rune) (a b : Lang) (w : List Rune) :
    deriv c (cat a b) w ↔ cat (deriv c a) b w ∨ (a [] ∧ deriv c b w) := by
  constructor
  · rintro ⟨u, v, h, hu, hv⟩
    rcases List.cons_eq_append_iff.mp h with ⟨rfl, rfl⟩ | ⟨u', rfl, rfl⟩
    · exact .inr ⟨hu, hv⟩
    · exact .inl ⟨u', v, rfl, hu, hv⟩
  · rintro (⟨u, v, rfl, hu, hv⟩ | ⟨h1, h2⟩)
    · exact ⟨c :: u, v, rfl, hu, hv⟩
    · exact ⟨[], c :: w, rfl, h1, h2⟩

theorem deriv_cat_of_nil {a : Lang} (h : a []) (c : Rune) (b : Lang) :
    deriv c (cat a b) = union (cat (deriv c a) b) (deriv c b) :=
  ext fun w => (deriv_cat c a b w).trans (or_congr_right (and_iff_right h))

theorem deriv_cat_of_not_nil {a : Lang} (h : ¬a []) (c : Rune) (b : Lang) : deriv c (cat a b) = cat (deriv c a) b :=
  ext fun w => (deriv_cat c a b w).trans (or_iff_left fun h' => h h'.1)

theorem deriv_star (c : Rune) (a : Lang) : deriv c (star a) = cat (deriv c a) (star a) := by
  refine ext fun w => ⟨?_, ?_⟩
  · intro (h : star a (c :: w))
    generalize hx : c :: w = x at h
    induction h with
    | nil => cases hx
    | app u v hu hv ih =>
      rcases List.cons_eq_append_iff.mp hx with ⟨rfl, rfl⟩ | ⟨u', rfl, rfl⟩
      · exact ih rfl
      · exact ⟨u', v, rfl, hu, hv⟩
  · rintro ⟨u, v, rfl, hu, hv⟩
    exact star.app (c :: u) v hu hv

end Lang

theorem Re.nullable_iff (r : Re) : r.nullable = true ↔ r.lang [] := by
  induction r with
  | empty => exact ⟨nofun, False.elim⟩
  | eps => exact ⟨fun _ => rfl, fun _ => rfl⟩
  | set rs => exact ⟨nofun, fun ⟨_, _, h⟩ => nomatch h⟩
  | alt a b iha ihb => exact Bool.or_eq_true_iff.trans (or_congr iha ihb)
  | cat a b iha ihb => exact Bool.and_eq_true_iff.trans ((and_congr iha ihb).trans Lang.cat_nil.symm)
  | star a _ => exact ⟨fun _ => .nil, fun _ => rfl⟩

theorem Re.deriv_lang (r : Re) (c : Rune) : (r.deriv c).lang = Lang.deriv c r.lang := by
  induction r with
  | empty => rfl
  | eps => exact (Lang.deriv_eps c).symm
  | set rs =>
    rw [Re.deriv]
    split
    · next h => exact (Lang.deriv_set_of_mem (List.contains_iff_mem.mp h)).symm
    · next h => exact (Lang.deriv_set_of_not_mem (mt List.contains_iff_mem.mpr h)).symm
  | alt a b iha ihb => simp only [Re.deriv, Re.lang, iha, ihb]; rfl
  | cat a b iha ihb =>
    rw [Re.deriv]
    split
    · next hn => simp only [Re.lang, iha, ihb, Lang.deriv_cat_of_nil ((Re.nullable_iff a).mp hn)]
    · next hn => simp only [Re.lang, iha, Lang.deriv_cat_of_not_nil (mt (Re.nullable_iff a).mpr hn)]
  | star a iha => simp only [Re.deriv, Re.lang, iha, Lang.deriv_star]

/-- The derivative matcher is a decision procedure for the language of a regular expression. -/
theorem Re.matchD_iff (r : Re) (w : List Rune) : r.matchD w = true ↔ r.lang w := by
  induction w generalizing r with
  | nil => exact Re.nullable_iff r
  | cons c w ih => rw [Re.matchD, ih, Re.deriv_lang]; rfl

theorem Re.pow_lang (r : Re) (n : Nat) : (Re.pow r n).lang = Lang.pow r.lang n := by
  induction n with
  | zero => rfl
  | succ n ih => exact congrArg (Lang.cat r.lang) ih

theorem Re.upto_lang (r : Re) (n : Nat) : (Re.upto r n).lang = Lang.upto r.lang n := by
  induction n with
  | zero => rfl
  | succ n ih => exact congrArg (Lang.cat (Lang.union Lang.eps r.lang)) ih

theorem quantRe_lang (r : Re) (q : Quant) : (quantRe r q).lang = Lang.quant r.lang q := by
  rcases q with _ | _ | _ | ⟨lo, _ | u⟩
  · rfl
  · rfl
  · rfl
  · simp only [quantRe, Re.lang, Re.pow_lang, Lang.quant]
  · simp only [quantRe, Re.lang, Re.pow_lang, Re.upto_lang, Lang.quant]

theorem Pat.denote_quant (T : ClassTable) (p : Pat) (q : Quant) (lz : Bool) :
    (Pat.quant p q lz).denote T = Lang.quant (p.denote T) q :=
  quantRe_lang (p.toRe T) q

theorem catN_lang (cfg : RCfg) (xs : List NExp) : (catN xs).lang cfg = Lang.catList (xs.map (NExp.lang cfg)) := by
  induction xs with
  | nil => rfl
  | cons a rest ih =>
    cases rest with
    | nil => exact (Lang.cat_eps_right _).symm
    | cons b rest' => exact congrArg (Lang.cat (a.lang cfg)) ih

theorem NExp.toRe_lang (cfg : RCfg) (n : NExp) : (n.toRe cfg).lang = n.lang cfg := by
  induction n with
  | sym rs => simp only [NExp.toRe, NExp.lang]; split <;> rfl
  | eps => rfl
  | union a b iha ihb => simp only [NExp.toRe, Re.lang, iha, ihb, NExp.lang]
  | cat a b iha ihb => simp only [NExp.toRe, Re.lang, iha, ihb, NExp.lang]
  | star a ih => simp only [NExp.toRe, Re.lang, ih, NExp.lang]

/-- `quantifyNFA` builds the documented language of the quantified expression. -/
theorem quantN_lang (cfg : RCfg) (n : NExp) (q : Quant) : (quantN n q).lang cfg = Lang.quant (n.lang cfg) q := by
  rcases q with _ | _ | _ | ⟨lo, _ | u⟩
  · rfl
  · rfl
  · rfl
  · simp only [quantN, catN_lang, List.map_append, List.map_replicate]; exact Lang.catList_rep_star _ lo
  · simp only [quantN, catN_lang, List.map_append, List.map_replicate]; exact Lang.catList_rep_upto _ lo u

/-- The only fact about the class table the construction relies on: `RuneClasses["ASCII"]` is the
    range `0 … n-1` (the bracket-group table is indexed by the character). -/
def AsciiOk (T : ClassTable) : Prop := ∃ n, classRunes T "ASCII" = some (List.range n)

theorem mem_noNul {r : Rune} {rs : List Rune} : r ∈ noNul rs ↔ r ∈ rs ∧ r ≠ 0 := by
  simp [noNul]

/-- A negated class of the code (NUL removed last, by the contract) is the documented one (taken from the characters
    without NUL). -/
theorem noNul_filter (f : Rune → Bool) (rs : List Rune) : noNul (rs.filter f) = (noNul rs).filter f := by
  simp only [noNul, List.filter_filter, Bool.and_comm]

theorem groupRunes_mem (T : ClassTable) (hT : AsciiOk T) (neg : Bool) (items : List GItem) (r : Rune) :
    r ∈ noNul (groupRunes T neg items) ↔ r ∈ setOf T neg (items.flatMap (GItem.chars T)) := by
  obtain ⟨n, hn⟩ := hT
  cases neg with
  | true =>
    simp only [groupRunes, setOf, univRunes, hn, Option.getD_some, List.length_range, if_true]
    rw [noNul_filter]
    rfl
  | false =>
    -- the table holds the characters below `n`, `others` those from `n` on
    simp only [groupRunes, setOf, hn, Option.getD_some, List.length_range, mem_noNul, Bool.false_eq_true, if_false,
      List.mem_append, List.mem_filter, List.mem_range, List.mem_eraseDups, List.contains_iff_mem, decide_eq_true_eq]
    refine and_congr_left' ⟨?_, fun h => (Nat.lt_or_ge r n).imp (⟨·, h⟩) (⟨h, ·⟩)⟩
    rintro (⟨_, h⟩ | ⟨h, _⟩)
    · exact h
    · exact h

/-- a sub-expression is the concatenation of its first item and the rest, also where `concat` is given one operand -/
theorem compileN_scons_lang (T : ClassTable) (cfg : RCfg) (a r : Pat) :
    (compileN T (.scons a r)).lang cfg = Lang.cat ((compileN T a).lang cfg) ((compileN T r).lang cfg) := by
  cases r with
  | snil => exact (Lang.cat_eps_right _).symm
  | _ => rfl

theorem compileN_denote (T : ClassTable) (hT : AsciiOk T) (p : Pat) : (compileN T p).lang RCfg.fixed = p.denote T := by
  induction p with
  | any => rfl
  | char c => rfl
  | cls neg rs =>
    cases neg with
    | false => rfl
    | true => exact congrArg Lang.set (noNul_filter _ _)
  | group neg items => exact Lang.set_congr (groupRunes_mem T hT neg items)
  | quant p q lz ih => simp only [compileN, quantN_lang, ih, Pat.denote_quant]
  | snil => rfl
  | scons a r iha ihr => rw [compileN_scons_lang, iha, ihr]; rfl
  | alt a b iha ihb => simp only [compileN, NExp.lang, iha, ihb]; rfl

/-- **The NFA-route construction is correct** (with finding F3 repaired): under the contract of the
    dependency's NFA algebra, the automaton the mappers build for a pattern has exactly the
    pattern's documented language — every construct, every quantifier form, lazy or not. -/
theorem compileN_lang_fixed (T : ClassTable) (hT : AsciiOk T) (p : Pat) :
    (compileN T p).lang RCfg.fixed ≃ p.denote T :=
  .of_eq (compileN_denote T hT p)

end Emerge.Regex
