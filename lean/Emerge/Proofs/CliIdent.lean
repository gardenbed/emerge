import Emerge.Ident
/-
  `isIDValid` and `shape` as propositions.
-/
namespace Emerge.Ident

theorem shape_cons (isL isNd : Char → Bool) (c : Char) (cs : List Char) :
    shape isL isNd (c :: cs) = true ↔ (isL c = true ∨ c = '_') ∧ ∀ d ∈ cs, isL d = true ∨ isNd d = true ∨ d = '_' := by
  simp [shape, or_assoc]

theorem isIDValid_iff (isL isNd : Char → Bool) (builtin : List String) (name : String) :
    isIDValid isL isNd builtin name = true ↔ shape isL isNd name.toList = true ∧ name ≠ "_" ∧ name ∉ builtin := by
  simp [isIDValid, and_assoc]

end Emerge.Ident
