import Emerge.LREval
/-
  The two stack machines that consume the callback sequence (`astEvents`, `evalEvents`): what a pop does, and induction
  along a successful run of the tree builder.
-/
namespace Emerge.LR

theorem popValues_eq {α} (n : Nat) (st : List α) :
    popValues n st = if n ≤ st.length then some ((st.take n).reverse, st.drop n) else none := by
  induction n generalizing st with
  | zero => simp [popValues]
  | succ n ih =>
    cases st with
    | nil => simp [popValues]
    | cons v st =>
      simp only [popValues, ih]
      by_cases h : n ≤ st.length <;> simp [h]

theorem popValues_some {α} {n : Nat} {st vs st' : List α} (h : popValues n st = some (vs, st')) :
    st = vs.reverse ++ st' ∧ vs.length = n := by
  rw [popValues_eq] at h
  split at h
  · cases h
    simp [Nat.min_eq_left ‹n ≤ st.length›]
  · cases h

theorem popValues_append {α} (vs st : List α) : popValues vs.length (vs.reverse ++ st) = some (vs, st) := by
  simp [popValues_eq, List.take_left']

/-- Induction along a successful run of the tree builder, from its end: `Q evs st` says what the events still to come
    make of the stack `st`. A production callback finds its children `cs` on the stack, newest first, as many as the
    body has symbols. -/
theorem astEvents_induct {prods : List Prod} {st' : List Node} {Q : List Event → List Node → Prop}
    (nil : Q [] st')
    (tok : ∀ i es st, Q es (.leaf i :: st) → Q (.tok i :: es) st)
    (prod : ∀ p A β es cs st, prods[p]? = some (A, β) → cs.length = β.length →
      Q es (.inner p cs :: st) → Q (.prod p :: es) (cs.reverse ++ st)) :
    ∀ evs st, astEvents prods evs st = some st' → Q evs st := by
  intro evs
  induction evs with
  | nil => intro st h; cases h; exact nil
  | cons e es ih =>
    intro st h
    cases e with
    | tok i => exact tok i es st (ih _ h)
    | prod p =>
      simp only [astEvents] at h
      split at h
      · cases h
      · rename_i A β hp
        split at h
        · cases h
        · rename_i cs st₀ hv
          obtain ⟨rfl, hlen⟩ := popValues_some hv
          exact prod p A β es cs st₀ hp hlen (ih _ h)

end Emerge.LR
