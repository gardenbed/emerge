import Emerge.Inst.Regex
import Emerge.Regex.Follow
/-
  C10 — the direct (followpos) pattern-to-DFA construction: induction over syntax trees, the language of a tree,
  and `nullable`.

  The functions of `Regex/Follow.lean` recurse over a tree and its operand lists together. `Node.induct` and the
  equations below it (`allNullable` is `List.all`, `firstAlt` a `flatMap`, …) let a proof treat the operands through
  membership; only the concatenation functions, which are not maps, need a list induction of their own.
-/
namespace Emerge.Regex.Follow

theorem Node.induct {P : Node → Prop} (concat : ∀ xs, (∀ x ∈ xs, P x) → P (.concat xs))
    (alt : ∀ xs, (∀ x ∈ xs, P x) → P (.alt xs)) (star : ∀ x, P x → P (.star x)) (empty : P .empty)
    (char : ∀ c p, P (.char c p)) : ∀ n, P n :=
  Node.rec (motive_1 := P) (motive_2 := fun xs => ∀ x ∈ xs, P x) concat alt star empty char
    (fun _ h => nomatch h)
    (fun _ _ hx hxs _ h => by rcases List.mem_cons.mp h with rfl | h; exact hx; exact hxs _ h)

theorem allNullable_eq (xs : List Node) : allNullable xs = xs.all Node.nullable := by
  induction xs with
  | nil => rfl
  | cons x xs ih => simp only [allNullable, ih, List.all_cons]

theorem anyNullable_eq (xs : List Node) : anyNullable xs = xs.any Node.nullable := by
  induction xs with
  | nil => rfl
  | cons x xs ih => simp only [anyNullable, ih, List.any_cons]

theorem firstAlt_eq (xs : List Node) : firstAlt xs = xs.flatMap Node.firstPos := by
  induction xs with
  | nil => rfl
  | cons x xs ih => simp only [firstAlt, ih, List.flatMap_cons]

theorem lastAlt_eq (xs : List Node) : lastAlt xs = xs.flatMap Node.lastPos := by
  induction xs with
  | nil => rfl
  | cons x xs ih => simp only [lastAlt, ih, List.flatMap_cons]

theorem leavesList_eq (xs : List Node) : leavesList xs = xs.flatMap leaves := by
  induction xs with
  | nil => rfl
  | cons x xs ih => simp only [leavesList, ih, List.flatMap_cons]

theorem mem_firstConcat_cons {x : Node} {xs : List Node} {p : Nat} :
    p ∈ firstConcat (x :: xs) ↔ p ∈ x.firstPos ∨ (x.nullable = true ∧ p ∈ firstConcat xs) := by
  simp only [firstConcat]
  split <;> simp [*]

theorem mem_lastConcat_cons {x : Node} {xs : List Node} {p : Nat} :
    p ∈ lastConcat (x :: xs) ↔ p ∈ lastConcat xs ∨ (allNullable xs = true ∧ p ∈ x.lastPos) := by
  simp only [lastConcat]
  split <;> simp [*, or_comm]

end Emerge.Regex.Follow

namespace Emerge.Props.C10
open Emerge Emerge.Regex Emerge.Regex.Follow

mutual
/-- the language of a syntax tree (positions play no role) -/
def Node.lang : Node → Lang
  | .concat xs => langConcat xs
  | .alt xs => langAlt xs
  | .star x => Lang.star (Node.lang x)
  | .empty => Lang.eps
  | .char c _ => Lang.set [c]
def langConcat : List Node → Lang
  | [] => Lang.eps
  | x :: xs => Lang.cat (Node.lang x) (langConcat xs)
def langAlt : List Node → Lang
  | [] => Lang.empty
  | x :: xs => Lang.union (Node.lang x) (langAlt xs)
end

theorem langAlt_iff (xs : List Node) (w : List Rune) : langAlt xs w ↔ ∃ x ∈ xs, Node.lang x w := by
  induction xs with
  | nil => simp [langAlt, Lang.empty]
  | cons x xs ih => simp [langAlt, Lang.union, ih]

theorem cat_nil_iff (a b : Lang) : Lang.cat a b [] ↔ a [] ∧ b [] := by
  constructor
  · rintro ⟨u, v, h, hu, hv⟩
    obtain ⟨rfl, rfl⟩ := List.append_eq_nil_iff.mp h.symm
    exact ⟨hu, hv⟩
  · rintro ⟨hu, hv⟩; exact ⟨[], [], rfl, hu, hv⟩

theorem langConcat_nil (xs : List Node) : langConcat xs [] ↔ ∀ x ∈ xs, Node.lang x [] := by
  induction xs with
  | nil => simp [langConcat, Lang.eps]
  | cons x xs ih => simp [langConcat, cat_nil_iff, ih]

/-- **nullable is correct**: `nullable(n)` holds iff the sub-expression can match the empty string. -/
theorem nullable_iff_lang : ∀ n : Node, n.nullable = true ↔ Node.lang n [] := by
  refine Node.induct (fun xs ih => ?_) (fun xs ih => ?_) (fun x _ => ?_) ?_ (fun c p => ?_)
  · simp only [Node.nullable, Node.lang, allNullable_eq, List.all_eq_true, langConcat_nil]
    exact forall₂_congr ih
  · simp only [Node.nullable, Node.lang, anyNullable_eq, List.any_eq_true, langAlt_iff]
    exact exists_congr fun x => and_congr_right (ih x)
  · simp only [Node.nullable, Node.lang, true_iff]; exact Lang.star.nil
  · simp [Node.nullable, Node.lang, Lang.eps]
  · simp [Node.nullable, Node.lang, Lang.set]

theorem allNullable_iff (xs : List Node) : allNullable xs = true ↔ langConcat xs [] := by
  simp only [allNullable_eq, List.all_eq_true, langConcat_nil, nullable_iff_lang]

theorem anyNullable_iff : (xs : List Node) → (anyNullable xs = true ↔ langAlt xs []) := by
  intro xs
  simp only [anyNullable_eq, List.any_eq_true, langAlt_iff, nullable_iff_lang]

/-- A concatenation is nullable iff all its operands are (the repaired defect, stated outright). -/
theorem concat_nullable_all (xs : List Node) : (Node.concat xs).nullable = xs.all Node.nullable :=
  allNullable_eq xs

/-- Non-vacuity / regression: the trees of `a?`, `(a*)b` … : a concatenation of nullable operands is nullable,
    `a{0}` (an empty concatenation) is nullable, `ab?` is not. -/
example : (Node.concat [.alt [.empty, .char 97 1], .star (.char 98 2)]).nullable = true := by decide
example : (quantNode (.char 97 0) (.rep 0 (some 0))).nullable = true := by decide
example : (Node.concat [.char 97 1, .alt [.empty, .char 98 2]]).nullable = false := by decide

end Emerge.Props.C10
