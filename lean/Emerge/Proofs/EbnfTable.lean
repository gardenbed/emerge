import Emerge.Proofs.GrammarLang
import Emerge.Proofs.EbnfSymTab
/-
  The invariant of the symbol table across the semantic actions: every name in the memo table of the
  operators (`{ }`, `{{ }}`, `[ ]`, `( )`) has exactly the productions of its operator's shape for the
  recorded operand - whatever operators and rules were processed before and after.  Preserved by the
  operator actions (`closureAction`), by adding a rule whose name is not a synthesised one, and by
  everything that leaves productions and memo alone.
-/
namespace Emerge.Props.C01
open Emerge Emerge.Ebnf

theorem mem_shapeBodies (k : Kind) (n : String) (s : Strings) (β : GString) : β ∈ shapeBodies k n s ↔ ShapeMem k n s β := by
  cases k <;>
    simp only [shapeBodies, ShapeMem, List.mem_flatMap, List.mem_append, List.mem_map, List.mem_cons, List.not_mem_nil,
      or_false, and_or_left, exists_or, exists_eq_right, @eq_comm _ β]

/-- **What the operator actions add**: exactly the documented production shapes for the returned non-terminal,
    nothing for any other head, and nothing is removed. -/
theorem closureAction_prods (cfg : Cfg) (names : List (String × String)) (t : SymTab) (s : Strings) (k : Kind) (q : GProd) :
    q ∈ (closureAction cfg names t s k).1.prods ↔
      q ∈ t.prods ∨ (q.head = (closureAction cfg names t s k).2 ∧ ShapeMem k (closureAction cfg names t s k).2 s q.body) := by
  have e1 : (getName cfg names t s k).1.prods = t.prods := by rw [getName_frame]
  have e2 : ∀ u A, (addNonTerminal u A).prods = u.prods := fun u A => by rw [addNonTerminal_frame]
  rw [closureAction_eq]
  dsimp only
  rw [mem_foldl_addProduction, e2, e1, List.mem_map]
  refine or_congr Iff.rfl ?_
  simp only [mem_shapeBodies]
  constructor
  · rintro ⟨β, hβ, rfl⟩; exact ⟨rfl, hβ⟩
  · rintro ⟨hh, hβ⟩; exact ⟨q.body, hβ, hh ▸ rfl⟩

/-- name, non-terminals and memo table after an operator action -/
theorem closureAction_table (cfg : Cfg) (names : List (String × String)) (t : SymTab) (s : Strings) (k : Kind) :
    (closureAction cfg names t s k).2 = (getName cfg names t s k).2 ∧
    (∀ x, x ∈ (closureAction cfg names t s k).1.nonTerminals ↔ x ∈ t.nonTerminals ∨ x = (getName cfg names t s k).2) ∧
    (closureAction cfg names t s k).1.memo = (getName cfg names t s k).1.memo := by
  have e1 : (getName cfg names t s k).1.nonTerminals = t.nonTerminals := by rw [getName_frame]
  rw [closureAction_eq]
  dsimp only
  refine ⟨rfl, fun x => ?_, ?_⟩
  · rw [foldl_addProduction_frame]
    dsimp only
    rw [mem_addNonTerminal, e1]
  · rw [foldl_addProduction_frame, addNonTerminal_frame]

/-- set-equal operands give the same shape -/
theorem ShapeMem_congr {k : Kind} {n : String} {s s' : Strings} (h : eqStrings s s' = true) (β : GString) :
    ShapeMem k n s β ↔ ShapeMem k n s' β := by
  cases k <;> simp only [ShapeMem, eqStrings_iff.mp h]

/-- the invariant -/
structure TableOk (t : SymTab) : Prop where
  /-- every production's head is a registered non-terminal -/
  heads : ∀ p ∈ t.prods, p.head ∈ t.nonTerminals
  /-- a memoised name is a registered non-terminal and has exactly its operator's productions -/
  shape : ∀ s e, (s, e) ∈ t.memo → ∀ k, e.get k ≠ "" →
    e.get k ∈ t.nonTerminals ∧ ∀ β, ⟨e.get k, β⟩ ∈ t.prods ↔ ShapeMem k (e.get k) s β
  /-- a name stands for one operator occurrence class only -/
  uniq : ∀ s e s' e', (s, e) ∈ t.memo → (s', e') ∈ t.memo → ∀ k k', e.get k ≠ "" → e.get k = e'.get k' →
    k = k' ∧ eqStrings s s' = true

theorem TableOk.empty : TableOk {} :=
  ⟨nofun, nofun, nofun⟩

/-- what `getName` returns and leaves behind -/
theorem getName_spec (cfg : Cfg) (names : List (String × String)) (t : SymTab) (s : Strings) (k : Kind) :
    (getName cfg names t s k).1.prods = t.prods ∧ (getName cfg names t s k).1.nonTerminals = t.nonTerminals ∧
    ((∃ s' e, (s', e) ∈ t.memo ∧ keyEq s' s = true ∧ e.get k ≠ "" ∧ (getName cfg names t s k).2 = e.get k ∧
        (getName cfg names t s k).1.memo = t.memo) ∨
     ((getName cfg names t s k).2 = (mapStringToNonTerminal cfg names t s k.suffix).2 ∧
      ∀ s'' e'', (s'', e'') ∈ (getName cfg names t s k).1.memo →
        (s'', e'') ∈ t.memo ∨
        (∃ e0, ((s'', e0) ∈ t.memo ∨ e0 = {}) ∧ eqStrings s'' s = true ∧ e0.get k = "" ∧
          e'' = e0.set k (getName cfg names t s k).2))) := by
  have hf := getName_frame cfg names t s k
  refine ⟨by rw [hf], by rw [hf], ?_⟩
  rcases getName_cases cfg names t s k with ⟨s0, e0, hm, hk, hne, h⟩ | ⟨m1, s0, e0, m2, hmemo, hq, hz, h⟩
  · exact Or.inl ⟨s0, e0, hm, hk, hne, by rw [h], by rw [h]⟩
  · rw [h]
    obtain ⟨he0, hnew, _⟩ := mem_memo_replace hmemo (e0.set k (mapStringToNonTerminal cfg names t s k.suffix).2)
    refine Or.inr ⟨rfl, fun s'' e'' hin => (hnew _ hin).imp_right fun heq => ?_⟩
    cases heq
    exact ⟨e0, he0, hq, hz, rfl⟩

/-- **Everything else keeps the table well-formed**: the memo table is untouched, non-terminals are only added, and
    the productions added have registered heads that are not synthesised names. -/
theorem TableOk.extend {t t' : SymTab} (h : TableOk t) (new : List GProd) (hm : t'.memo = t.memo)
    (hn : ∀ x, x ∈ t.nonTerminals → x ∈ t'.nonTerminals) (hp : ∀ q, q ∈ t'.prods ↔ q ∈ t.prods ∨ q ∈ new)
    (hnew : ∀ q ∈ new, q.head ∈ t'.nonTerminals ∧ ∀ s e, (s, e) ∈ t.memo → ∀ k, e.get k ≠ q.head) : TableOk t' := by
  refine ⟨fun q hq => ?_, fun s e hme k hne => ?_, ?_⟩
  · rcases (hp q).mp hq with hq | hq
    · exact hn _ (h.heads q hq)
    · exact (hnew q hq).1
  · rw [hm] at hme
    obtain ⟨hin, hsh⟩ := h.shape s e hme k hne
    refine ⟨hn _ hin, fun β => ?_⟩
    rw [hp, ← hsh β]
    exact or_iff_left fun hq => (hnew _ hq).2 s e hme k rfl
  · rw [hm]; exact h.uniq

/-- **The operator actions keep the table well-formed** - provided a newly synthesised name is unused (the code tries
    |NT| + 1 numbered candidates; that one of them is unused rests on decimal printing being injective, not proved). -/
theorem TableOk.closure {t : SymTab} (h : TableOk t) (cfg : Cfg) (names : List (String × String)) (s : Strings) (k : Kind)
    (hfresh : (mapStringToNonTerminal cfg names t s k.suffix).2 ∉ t.nonTerminals) :
    TableOk (closureAction cfg names t s k).1 := by
  obtain ⟨hname, hnts, hmemo⟩ := closureAction_table cfg names t s k
  have hprods := closureAction_prods cfg names t s k
  rw [hname] at hprods
  generalize (closureAction cfg names t s k).1 = t3 at hnts hmemo hprods ⊢
  rcases getName_cases cfg names t s k with ⟨s0, e0, hm0, hkey, hne0, hg⟩ | ⟨m1, s0, e0, m2, hsplit, hq, hz, hg⟩ <;>
    rw [hg] at hnts hmemo hprods <;> dsimp only at hnts hmemo hprods
  · -- a memo hit: the name has the productions of this shape already (under the set-equal key `s0`)
    obtain ⟨hin, hsh⟩ := h.shape s0 e0 hm0 k hne0
    refine h.extend [] hmemo (fun x hx => (hnts x).mpr (.inl hx)) (fun q => ?_) nofun
    rw [hprods q, List.mem_nil_iff, or_false]
    refine or_iff_left_of_imp fun ⟨hh, hb⟩ => ?_
    have := (hsh q.body).mpr ((ShapeMem_congr (eqStrings_symm (eqStrings_of_keyEq hkey)) _).mp hb)
    rwa [← hh] at this
  · -- a miss: the name `n` is unused, so no old entry has it and no old production is under it
    generalize (mapStringToNonTerminal cfg names t s k.suffix).2 = n at hfresh hnts hmemo hprods
    have hother : ∀ s' e', (s', e') ∈ t.memo → ∀ k', e'.get k' ≠ "" → e'.get k' ≠ n := fun s' e' hm' k' hne' he =>
      hfresh (he ▸ (h.shape s' e' hm' k' hne').1)
    have hnohead : ∀ β, ⟨n, β⟩ ∉ t.prods := fun β hq => hfresh (h.heads _ hq)
    -- a name in the new memo table is the name of an old entry with the same key, or `n` under a key set-equal to `s`
    have view : ∀ s'' e'', (s'', e'') ∈ t3.memo → ∀ k'', e''.get k'' ≠ "" →
        (∃ e1, (s'', e1) ∈ t.memo ∧ e1.get k'' = e''.get k'') ∨ (k'' = k ∧ e''.get k'' = n ∧ eqStrings s'' s = true) := by
      intro s'' e'' hm k'' hne
      obtain ⟨he0, hnew, _⟩ := mem_memo_replace hsplit (e0.set k n)
      rcases hnew _ (hmemo ▸ hm) with h1 | h1
      · exact .inl ⟨e'', h1, rfl⟩
      · cases h1
        by_cases hk : k'' = k
        · subst hk; exact .inr ⟨rfl, MemoEntry.get_set_same .., hq⟩
        · rw [MemoEntry.get_set_other _ _ hk] at hne ⊢
          exact .inl ⟨e0, he0.resolve_right fun h0 => hne (h0 ▸ MemoEntry.get_default k''), rfl⟩
    refine ⟨fun q hq => ?_, fun s'' e'' hm k'' hne => ?_, fun s1 e1 s2 e2 hm1 hm2 k1 k2 hne heq => ?_⟩
    · rcases (hprods q).mp hq with hq | ⟨hh, _⟩
      · exact (hnts _).mpr (.inl (h.heads q hq))
      · exact (hnts _).mpr (.inr hh)
    · rcases view s'' e'' hm k'' hne with ⟨e1, he1, hg1⟩ | ⟨rfl, hg1, heq⟩
      · rw [← hg1] at hne ⊢
        obtain ⟨hin, hsh⟩ := h.shape s'' e1 he1 k'' hne
        refine ⟨(hnts _).mpr (.inl hin), fun β => ?_⟩
        rw [hprods, ← hsh β]
        exact or_iff_left fun ⟨hh, _⟩ => hother s'' e1 he1 k'' hne hh
      · rw [hg1]
        refine ⟨(hnts _).mpr (.inr rfl), fun β => ?_⟩
        rw [hprods, ShapeMem_congr heq β]
        exact (or_iff_right (hnohead β)).trans (and_iff_right rfl)
    · have hne2 : e2.get k2 ≠ "" := heq ▸ hne
      rcases view s1 e1 hm1 k1 hne with ⟨a1, ha1, hg1⟩ | ⟨rfl, hg1, hq1⟩ <;>
        rcases view s2 e2 hm2 k2 hne2 with ⟨a2, ha2, hg2⟩ | ⟨rfl, hg2, hq2⟩
      · exact h.uniq s1 a1 s2 a2 ha1 ha2 k1 k2 (hg1 ▸ hne) (by rw [hg1, hg2]; exact heq)
      · exact absurd (by rw [hg1, heq, hg2]) (hother s1 a1 ha1 k1 (hg1 ▸ hne))
      · exact absurd (by rw [hg2, ← heq, hg1]) (hother s2 a2 ha2 k2 (hg2 ▸ hne2))
      · exact ⟨rfl, eqStrings_trans hq1 (eqStrings_symm hq2)⟩

/-- **Adding rules keeps the table well-formed** if their names are registered non-terminals and not synthesised names
    (the second condition is what finding F2b violates in the code as it is; `Cfg.fixed` reserves the prefix). -/
theorem TableOk.addProductions {t : SymTab} (h : TableOk t) (ps : List GProd)
    (hps : ∀ p ∈ ps, p.head ∈ t.nonTerminals ∧ ∀ s e, (s, e) ∈ t.memo → ∀ k, e.get k ≠ p.head) :
    TableOk (ps.foldl addProduction t) := by
  refine h.extend ps ?_ (fun x hx => ?_) (mem_foldl_addProduction ps t) fun p hp => ?_
  · rw [foldl_addProduction_frame]
  · rw [foldl_addProduction_frame]; exact hx
  · rw [foldl_addProduction_frame]; exact hps p hp

theorem TableOk.addRule {t : SymTab} (h : TableOk t) (A : String) (α : GString) (hA : A ∈ t.nonTerminals)
    (hclash : ∀ s e, (s, e) ∈ t.memo → ∀ k, e.get k ≠ A) : TableOk (addProduction t ⟨A, α⟩) :=
  h.addProductions [⟨A, α⟩] fun _ hp => List.mem_singleton.mp hp ▸ ⟨hA, hclash⟩

/-- … and so does whatever leaves productions and memo table alone and only registers more non-terminals
    (terminals, directives, the `grammar` line, registering a rule's name). -/
theorem TableOk.frame {t t' : SymTab} (h : TableOk t) (hp : t'.prods = t.prods) (hm : t'.memo = t.memo)
    (hn : ∀ x, x ∈ t.nonTerminals → x ∈ t'.nonTerminals) : TableOk t' :=
  h.extend [] hm hn (fun q => by rw [hp, List.mem_nil_iff, or_false]) nofun

end Emerge.Props.C01
