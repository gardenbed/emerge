/-
  Facts about lists that several parts of the development use and core Lean does not have.
-/
namespace Emerge

/-- a fold that inserts, for each element, some new members: what is in the result -/
theorem mem_foldl_insert {α β} {g : List β → α → List β} {new : α → List β}
    (hg : ∀ u x y, y ∈ g u x ↔ y ∈ u ∨ y ∈ new x) (l : List α) (acc : List β) (y : β) :
    y ∈ l.foldl g acc ↔ y ∈ acc ∨ ∃ x ∈ l, y ∈ new x := by
  induction l generalizing acc with
  | nil => simp
  | cons x l ih => rw [List.foldl_cons, ih, hg]; simp only [List.mem_cons, exists_eq_or_imp, or_assoc]

/-! ### adding what is not there yet

  Productions, non-terminals, the handles of a level, the values `ensureDistinctDefs` collects and sets of positions
  are all kept as lists without duplicates by the same step. -/

theorem mem_addNew {α} [BEq α] [LawfulBEq α] (l : List α) (a x : α) :
    x ∈ (if l.contains a then l else l ++ [a]) ↔ x ∈ l ∨ x = a := by
  split
  · rename_i h
    exact ⟨Or.inl, fun hx => hx.elim id (· ▸ List.contains_iff_mem.mp h)⟩
  · rw [List.mem_append, List.mem_singleton]

theorem mem_foldl_addNew {α β} [BEq β] [LawfulBEq β] (f : α → β) (l : List α) (acc : List β) (v : β) :
    v ∈ l.foldl (fun acc x => if acc.contains (f x) then acc else acc ++ [f x]) acc ↔ v ∈ acc ∨ ∃ x ∈ l, f x = v := by
  rw [mem_foldl_insert (new := fun x => [f x]) fun u x y => by rw [mem_addNew, List.mem_singleton]]
  simp only [List.mem_singleton, eq_comm]

theorem getElem?_append_of_some {α} {l : List α} {k : Nat} {x : α} (h : l[k]? = some x) (more : List α) :
    (l ++ more)[k]? = some x := by
  rw [List.getElem?_append_left (List.getElem?_eq_some_iff.mp h).1, h]

/-- in a list of pairs with distinct keys, searching for a key finds every pair -/
theorem find?_key {α β} [DecidableEq α] {l : List (α × β)} (hl : (l.map (·.1)).Nodup) (a : α × β) :
    (l.find? (·.1 = a.1)).map (·.2) = some a.2 ↔ a ∈ l := by
  induction l with
  | nil => simp
  | cons b l ih =>
    simp only [List.map_cons, List.nodup_cons, List.mem_map, not_exists, not_and] at hl
    rw [List.find?_cons, List.mem_cons]
    by_cases hb : b.1 = a.1
    · simp only [hb, decide_true, Option.map_some, Option.some.injEq]
      exact ⟨fun h => Or.inl (Prod.ext hb.symm h.symm), fun h => h.elim (fun e => e ▸ rfl) (fun h => absurd hb.symm (hl.1 a h))⟩
    · simp only [hb, decide_false, ih hl.2]
      exact ⟨Or.inr, fun h => h.resolve_left (fun e => hb (e ▸ rfl))⟩

theorem append_eq_snoc {α} {u v m : List α} {a : α} (h : u ++ v = m ++ [a]) :
    (v = [] ∧ u = m ++ [a]) ∨ ∃ v', v = v' ++ [a] ∧ m = u ++ v' := by
  rcases List.eq_nil_or_concat v with rfl | ⟨v', b, rfl⟩
  · left; exact ⟨rfl, by simpa using h⟩
  · right
    rw [List.concat_eq_append, ← List.append_assoc] at h
    obtain ⟨h1, h2⟩ := List.append_inj' h rfl
    obtain rfl : b = a := by simpa using h2
    exact ⟨v', List.concat_eq_append, h1.symm⟩

/-- Sorting by insertion permutes, whatever the order inserted by (`insertStr`, `insertDef`). -/
theorem perm_foldr_insert {α} (c : α → α → Prop) [∀ x y, Decidable (c x y)] (ins : α → List α → List α)
    (h0 : ∀ x, ins x [] = [x]) (h1 : ∀ x y ys, ins x (y :: ys) = if c x y then x :: y :: ys else y :: ins x ys)
    (l : List α) : (l.foldr ins []).Perm l := by
  have step : ∀ x l, (ins x l).Perm (x :: l) := by
    intro x l
    induction l with
    | nil => rw [h0]
    | cons y l ih =>
      rw [h1]
      split
      · exact .refl _
      · exact (ih.cons y).trans (List.Perm.swap x y l)
  induction l with
  | nil => exact .refl _
  | cons x l ih => exact (step x _).trans (ih.cons x)

theorem filterMap_eq_self {α} {f : α → Option α} {l : List α} (h : ∀ x ∈ l, f x = some x) : l.filterMap f = l := by
  induction l with
  | nil => rfl
  | cons x l ih => rw [List.filterMap_cons_some (h x List.mem_cons_self), ih fun y hy => h y (List.mem_cons_of_mem _ hy)]

end Emerge
