import Emerge.Regex.Follow
import Emerge.Proofs.Comb
/-
  Every pattern the mapper model builds is made of item lists (`spined`): the hypothesis of `C10_dfa_documented`
  holds for whatever `parsePat` returns, for every grammar and class table.
  Core Lean only.
-/
namespace Emerge.Props.C10
open Emerge Emerge.Regex Emerge.Regex.Follow

mutual
/-- every pattern inside the value is made of item lists -/
def ValOk : Val → Prop
  | .pat p _ => spined p = true
  | .list xs => ValsOk xs
  | _ => True
def ValsOk : List Val → Prop
  | [] => True
  | x :: xs => ValOk x ∧ ValsOk xs
end

theorem valsOk_iff (xs : List Val) : ValsOk xs ↔ ∀ x ∈ xs, ValOk x := by
  induction xs with
  | nil => simp [ValsOk]
  | cons x xs ih => simp [ValsOk, ih]

theorem get_ok (v : Val) (i : Nat) (h : ValOk v) : ValOk (v.get i) := by
  cases v with
  | list xs =>
    show ValOk (xs.getD i .empty)
    rw [List.getD_eq_getElem?_getD]
    cases hx : xs[i]? with
    | none => trivial
    | some x => exact (valsOk_iff xs).mp h x (List.mem_of_getElem? hx)
  | _ => trivial

theorem subexpr_ok (items : List Val) (h : ValsOk items) :
    spined (items.foldr (fun x acc => match x with | .pat p _ => .scons p acc | _ => acc) .snil) = true ∧
    isSpine (items.foldr (fun x acc => match x with | .pat p _ => .scons p acc | _ => acc) .snil) = true := by
  induction items with
  | nil => exact ⟨rfl, rfl⟩
  | cons x xs ih =>
    obtain ⟨i1, i2⟩ := ih h.2
    cases x with
    | pat p it =>
      simp only [List.foldr, spined, isSpine, Bool.and_eq_true]
      exact ⟨⟨⟨h.1, i1⟩, i2⟩, trivial⟩
    | _ => exact ⟨i1, i2⟩

theorem ValOk.of_get {v : Val} {i : Nat} {p : Pat} {it : Option GItem} (hv : ValOk v) (h : v.get i = .pat p it) :
    ValOk (.pat p none) := by
  have := get_ok v i hv
  rwa [h] at this

theorem ValOk.quant {p : Pat} {q : Quant} {lz : Bool} (h : ValOk (.pat p none)) : ValOk (.pat (.quant p q lz) none) := h

theorem ValOk.alt {a b : Pat} (ha : ValOk (.pat a none)) (hb : ValOk (.pat b none)) : ValOk (.pat (.alt a b) none) :=
  Bool.and_eq_true_iff.mpr ⟨ha, hb⟩

theorem app_ok (T : ClassTable) (m : String) (v v' : Val) (hv : ValOk v) : app T m v = some v' → ValOk v' := by
  -- One goal for each way through `app`. Where the mapper fails there is nothing to show; where it passes its argument
  -- on or returns a value that holds no pattern taken from the argument (a number, a quantifier, a leaf pattern …),
  -- `ValOk` of the result is `hv` or holds by computation.
  fun_cases app T m v
  all_goals intro h
  all_goals try cases h
  all_goals try trivial
  -- Left are the mappers that answer through a local function or build a pattern from patterns.
  -- `ToCharClass`, once for each of its six names: its local function `cls` (a `let`, hence `zetaDelta`) returns a
  -- class, which is a leaf, whether or not the table has the name
  iterate 6
    simp +zetaDelta only at h
    split at h
    · cases h; rfl
    · cases h; rfl
  -- `ToMatch`: the pattern at 0, quantified if there is a quantifier at 1
  next => exact .quant (.of_get hv ‹v.get 0 = _›)
  next => exact .of_get hv ‹v.get 0 = _›
  -- `ToGroup`: the same with the pattern at 1 and the quantifier at 3
  next => exact .quant (.of_get hv ‹v.get 1 = _›)
  next => exact .of_get hv ‹v.get 1 = _›
  -- `ToSubexpr`: the patterns of the list, as an item list
  next => exact (subexpr_ok _ hv).1
  -- `ToExpr`: the pattern at 0, alone or in an alternation with the one inside the list at 1
  next => exact .alt (.of_get hv ‹v.get 0 = _›) (.of_get (get_ok v 1 hv) ‹(v.get 1).get 1 = _›)
  next => exact .of_get hv ‹v.get 0 = _›
  -- `ToRegex`: the pattern at 1
  next => exact .of_get hv ‹v.get 1 = _›

/-- **Whatever the mapper model returns for a pattern is made of item lists**, for every grammar and class table. -/
theorem parsePat_spined (G : Rules) (top : String) (T : ClassTable) (s : List Rune) (p : Pat)
    (h : parsePat G top T s = .ok p) : spined p = true := by
  obtain ⟨_, it, hy⟩ := parsePat_ok h
  exact hy.pred (P := ValOk) (fun _ => trivial) (fun _ => trivial) trivial (fun l => (valsOk_iff l).mpr)
    (fun v l hv hu => by cases v <;> cases hu; exact (valsOk_iff _).mp hv) (fun m v v' hv => app_ok T m v v' hv)

end Emerge.Props.C10
