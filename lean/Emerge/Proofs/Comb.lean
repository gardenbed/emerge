import Emerge.Regex.Pat
/-
  The combinator interpreter through its derivations: `ev … = .ok …` is turned once into a derivation (`Yields`), and
  what is proved of parse results — they are sentences of the grammar reading (`ev_sound`: ordered choice ⊆ choice,
  greedy ⊆ any), an invariant of the values holds of them, what `parsePat` answers — is an induction over derivations.
  Core Lean only.
-/
namespace Emerge.Regex

/-- `Yields A G c s v rest`: some run of `c` on the input `s` returns the value `v` and leaves `rest`. These are the
    clauses of `ev` that return, without the fuel and without the record of what was tried before (any alternative, any
    number of repetitions): `Matches` with the values and the remaining input written in. -/
inductive Yields {V : Type} (A : Alg V) (G : Rules) : Comb → List Rune → V → List Rune → Prop where
  | rune (r s) : Yields A G (.rune r) (r :: s) (A.rune r) s
  | runeIn (rs r s) : r ∈ rs → Yields A G (.runeIn rs) (r :: s) (A.rune r) s
  | range (lo hi r s) : lo ≤ r → r ≤ hi → Yields A G (.range lo hi) (r :: s) (A.rune r) s
  | str (t s) : Yields A G (.str t) (t ++ s) (A.str t) s
  | rangeExcl (lo hi rs r s) : lo ≤ r → r ≤ hi → r ∉ rs → Yields A G (.rangeExcl lo hi rs) (r :: s) (A.rune r) s
  | alt {cs c s v s'} : c ∈ cs → Yields A G c s v s' → Yields A G (.alt cs) s v s'
  | catNil (s) : Yields A G (.cat []) s (A.list []) s
  | catCons {c cs s v s₁ vs l s₂} : Yields A G c s v s₁ → Yields A G (.cat cs) s₁ vs s₂ → A.unlist vs = some l →
      Yields A G (.cat (c :: cs)) s (A.list (v :: l)) s₂
  | optNone (c s) : Yields A G (.opt c) s A.empty s
  | optSome {c s v s'} : Yields A G c s v s' → Yields A G (.opt c) s v s'
  | repOne {c s v s'} : Yields A G c s v s' → Yields A G (.rep1 c) s (A.list [v]) s'
  | repMore {c s v s₁ vs l s₂} : Yields A G c s v s₁ → Yields A G (.rep1 c) s₁ vs s₂ → A.unlist vs = some l →
      Yields A G (.rep1 c) s (A.list (v :: l)) s₂
  | map {m c s v s' v'} : Yields A G c s v s' → A.app m v = some v' → Yields A G (.map m c) s v' s'
  | nt {n c s v s'} : G.find n = some c → Yields A G c s v s' → Yields A G (.nt n) s v s'

section
variable {V : Type} {A : Alg V} {G : Rules} {c : Comb} {s rest : List Rune} {v : V}

theorem ev_yields {f : Nat} : ev A G f c s = .ok v rest → Yields A G c s v rest := by
  -- One goal for each branch of `ev`, with the results of the calls the branch has made and their induction hypotheses.
  -- Where the branch fails or is out of fuel `h` is absurd, where it returns `h` names the value and the rest.
  fun_induction ev A G f c s generalizing v rest
  all_goals intro h
  all_goals try cases h
  next => exact .rune _ _
  next hc => exact .runeIn _ _ _ (List.contains_iff_mem.mp hc)
  next hc => exact .range _ _ _ _ hc.1 hc.2
  next t s hp =>
    obtain ⟨r, rfl⟩ := List.isPrefixOf_iff_prefix.mp hp
    rw [List.drop_left]
    exact .str t r
  next hc hn => exact .rangeExcl _ _ _ _ _ hc.1 hc.2 (mt List.contains_iff_mem.mpr hn)
  next h1 ih => exact .alt List.mem_cons_self (ih h1)
  next ih =>
    cases ih h with
    | alt hc hy => exact .alt (List.mem_cons_of_mem _ hc) hy
  next => exact .catNil _
  next h1 _ _ h2 _ hl ih1 ih2 => exact .catCons (ih1 h1) (ih2 h2) hl
  next h1 ih => exact .optSome (ih h1)
  next => exact .optNone _ _
  next h1 ih => exact .repOne (ih h1)
  -- after a first item that leaves input, the second `match` of the branch is still in `h`
  next hl h1 h2 ih1 ih2 => simp only [h2, hl] at h; cases h; exact .repMore (ih1 h1) (ih2 h2) hl
  next hl _ h2 _ _ => simp only [h2, hl] at h; cases h
  next h1 h2 ih1 _ => simp only [h2] at h; cases h; exact .repOne (ih1 h1)
  next _ h2 _ _ => simp only [h2] at h; cases h
  next h1 _ hm ih => exact .map (ih h1) hm
  next hc ih => exact .nt hc (ih h)

theorem Yields.matches (h : Yields A G c s v rest) : ∃ u, s = u ++ rest ∧ Matches G c u := by
  induction h with
  | rune r s => exact ⟨[r], rfl, .rune r⟩
  | runeIn rs r s hr => exact ⟨[r], rfl, .runeIn rs r hr⟩
  | range lo hi r s h1 h2 => exact ⟨[r], rfl, .range lo hi r h1 h2⟩
  | str t s => exact ⟨t, rfl, .str t⟩
  | rangeExcl lo hi rs r s h1 h2 h3 => exact ⟨[r], rfl, .rangeExcl lo hi rs r h1 h2 h3⟩
  | alt hc _ ih => obtain ⟨u, e, hm⟩ := ih; exact ⟨u, e, .alt _ _ u hc hm⟩
  | catNil s => exact ⟨[], rfl, .catNil⟩
  | catCons _ _ _ ih1 ih2 =>
    obtain ⟨u₁, e₁, m₁⟩ := ih1
    obtain ⟨u₂, e₂, m₂⟩ := ih2
    exact ⟨u₁ ++ u₂, by rw [e₁, e₂, List.append_assoc], .catCons _ _ u₁ u₂ m₁ m₂⟩
  | optNone c s => exact ⟨[], rfl, .optNone c⟩
  | optSome _ ih => obtain ⟨u, e, hm⟩ := ih; exact ⟨u, e, .optSome _ u hm⟩
  | repOne _ ih => obtain ⟨u, e, hm⟩ := ih; exact ⟨u, e, .repOne _ u hm⟩
  | repMore _ _ _ ih1 ih2 =>
    obtain ⟨u₁, e₁, m₁⟩ := ih1
    obtain ⟨u₂, e₂, m₂⟩ := ih2
    exact ⟨u₁ ++ u₂, by rw [e₁, e₂, List.append_assoc], .repMore _ u₁ u₂ m₁ m₂⟩
  | map _ _ ih => obtain ⟨u, e, hm⟩ := ih; exact ⟨u, e, .map _ _ u hm⟩
  | nt hc _ ih => obtain ⟨u, e, hm⟩ := ih; exact ⟨u, e, .nt _ _ u hc hm⟩

theorem Yields.matches_all (h : Yields A G c s v []) : Matches G c s := by
  obtain ⟨u, hu, hm⟩ := h.matches
  rwa [hu, List.append_nil]

theorem Yields.pred (h : Yields A G c s v rest) {P : V → Prop} (hr : ∀ r, P (A.rune r)) (hs : ∀ s, P (A.str s))
    (he : P A.empty) (hl : ∀ l, (∀ x ∈ l, P x) → P (A.list l)) (hu : ∀ v l, P v → A.unlist v = some l → ∀ x ∈ l, P x)
    (ha : ∀ m v v', P v → A.app m v = some v' → P v') : P v := by
  induction h with
  | rune | runeIn | range | rangeExcl => exact hr _
  | str => exact hs _
  | alt _ _ ih | optSome _ ih | nt _ _ ih => exact ih
  | catNil => exact hl [] nofun
  | optNone => exact he
  | repOne _ ih => exact hl [_] (List.forall_mem_singleton.mpr ih)
  | catCons _ _ e ih1 ih2 | repMore _ _ e ih1 ih2 => exact hl _ (List.forall_mem_cons.mpr ⟨ih1, hu _ _ ih2 e⟩)
  | map _ e ih => exact ha _ _ _ ih e

end

theorem ev_sound {V : Type} (A : Alg V) (G : Rules) :
    ∀ (f : Nat) (c : Comb) (s : List Rune) (v : V) (rest : List Rune),
      ev A G f c s = .ok v rest → ∃ u, s = u ++ rest ∧ Matches G c u :=
  fun _ _ _ _ _ h => (ev_yields h).matches

theorem parsePat_cases (G : Rules) (top : String) (T : ClassTable) (s : List Rune) :
    (∃ p it, ev (alg T) G (parseFuel s) (.nt top) s = .ok (.pat p it) [] ∧
      parsePat G top T s = if p.errors = [] then .ok p else .semantic p.errors) ∨
    parsePat G top T s ∈ [.invalid, .outOfFuel, .panic] := by
  unfold parsePat
  split
  · exact .inr (by simp)
  · split
    · exact .inr (by simp)
    · exact .inr (by simp)
    · next v rest hev =>
      split
      · exact .inr (by simp)
      · next hrest =>
        rw [Decidable.not_not.mp hrest] at hev
        split
        · next p it => exact .inl ⟨p, it, hev, rfl⟩
        · exact .inr (by simp)

section
variable {G : Rules} {top : String} {T : ClassTable} {s : List Rune}

theorem parsePat_ok {p : Pat} (h : parsePat G top T s = .ok p) :
    p.errors = [] ∧ ∃ it, Yields (alg T) G (.nt top) s (.pat p it) [] := by
  obtain ⟨p', it, hev, e⟩ | hf := parsePat_cases G top T s
  · rw [h] at e
    split at e
    · cases e; exact ⟨‹_›, it, ev_yields hev⟩
    · cases e
  · simp [h] at hf

theorem parsePat_semantic {es : List String} (h : parsePat G top T s = .semantic es) :
    es ≠ [] ∧ ∃ p it, es = p.errors ∧ Yields (alg T) G (.nt top) s (.pat p it) [] := by
  obtain ⟨p, it, hev, e⟩ | hf := parsePat_cases G top T s
  · rw [h] at e
    split at e
    · cases e
    · cases e; exact ⟨‹_›, p, it, rfl, ev_yields hev⟩
  · simp [h] at hf

end

end Emerge.Regex
