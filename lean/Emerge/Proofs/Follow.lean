import Emerge.Proofs.FollowBase
import Emerge.Proofs.ListAux
/-
  The followpos construction. A word of a tree's language, each character paired with the position of the leaf that
  matches it, is a marked word (`Node.mlang`). Here: marked words spell exactly the language; the first and last
  position of a marked word lie in `firstPos` and `lastPos`; positions adjacent in a marked word are related by the
  follow relation `Fol`, defined by recursion on the tree; and `computeFollows` adds to a follow map exactly the
  pairs of `Fol`. Positions need not be distinct for any of this.
-/
namespace Emerge.Props.C10
open Emerge Emerge.Regex Emerge.Regex.Follow

/-- a word with the position each character was matched at -/
abbrev MWord := List (Nat × Rune)
abbrev MLang := MWord → Prop

inductive MStar (a : MLang) : MLang
  | nil : MStar a []
  | app (u v : MWord) : a u → MStar a v → MStar a (u ++ v)

mutual
/-- the marked language of a syntax tree: the words of its language, every character paired with the position of the
    leaf it is matched by -/
def Node.mlang : Node → MLang
  | .concat xs => mlangCat xs
  | .alt xs => mlangAlt xs
  | .star x => MStar (Node.mlang x)
  | .empty => fun w => w = []
  | .char c p => fun w => w = [(p, c)]
def mlangCat : List Node → MLang
  | [] => fun w => w = []
  | x :: xs => fun w => ∃ u v, w = u ++ v ∧ Node.mlang x u ∧ mlangCat xs v
def mlangAlt : List Node → MLang
  | [] => fun _ => False
  | x :: xs => fun w => Node.mlang x w ∨ mlangAlt xs w
end

theorem mlangAlt_iff (xs : List Node) (m : MWord) : mlangAlt xs m ↔ ∃ x ∈ xs, Node.mlang x m := by
  induction xs with
  | nil => simp [mlangAlt]
  | cons x xs ih => simp [mlangAlt, ih]

/-! ### marked words spell the language -/

theorem langConcat_iff_mlangCat {xs : List Node}
    (ih : ∀ x ∈ xs, ∀ w, Node.lang x w ↔ ∃ m, Node.mlang x m ∧ m.map (·.2) = w) :
    ∀ w, langConcat xs w ↔ ∃ m, mlangCat xs m ∧ m.map (·.2) = w := by
  induction xs with
  | nil => intro w; simp [langConcat, mlangCat, Lang.eps, eq_comm]
  | cons x xs ihx =>
    intro w
    have ⟨hx, hxs⟩ := List.forall_mem_cons.mp ih
    replace hxs := ihx hxs
    simp only [langConcat, mlangCat, Lang.cat]
    constructor
    · rintro ⟨u, v, rfl, hu, hv⟩
      obtain ⟨mu, hmu, rfl⟩ := (hx u).mp hu
      obtain ⟨mv, hmv, rfl⟩ := (hxs v).mp hv
      exact ⟨mu ++ mv, ⟨mu, mv, rfl, hmu, hmv⟩, List.map_append⟩
    · rintro ⟨_, ⟨mu, mv, rfl, hmu, hmv⟩, rfl⟩
      exact ⟨_, _, List.map_append, (hx _).mpr ⟨mu, hmu, rfl⟩, (hxs _).mpr ⟨mv, hmv, rfl⟩⟩

theorem star_iff_mstar {x : Node} (ih : ∀ w, Node.lang x w ↔ ∃ m, Node.mlang x m ∧ m.map (·.2) = w) (w : List Rune) :
    Lang.star (Node.lang x) w ↔ ∃ m, MStar (Node.mlang x) m ∧ m.map (·.2) = w := by
  constructor
  · intro h
    induction h with
    | nil => exact ⟨[], .nil, rfl⟩
    | app u v hu _ ihv =>
      obtain ⟨mu, hmu, rfl⟩ := (ih u).mp hu
      obtain ⟨mv, hmv, rfl⟩ := ihv
      exact ⟨mu ++ mv, .app _ _ hmu hmv, List.map_append⟩
  · rintro ⟨m, hm, rfl⟩
    induction hm with
    | nil => exact .nil
    | app u v hu _ ihv => rw [List.map_append]; exact .app _ _ ((ih _).mpr ⟨u, hu, rfl⟩) ihv

/-- a string is in the language iff some marked word spells it -/
theorem lang_iff_mlang : ∀ (n : Node) (w : List Rune), Node.lang n w ↔ ∃ m, Node.mlang n m ∧ m.map (·.2) = w := by
  refine Node.induct (fun xs ih => ?_) (fun xs ih w => ?_) (fun x ih => ?_) (fun w => ?_) (fun c p w => ?_)
  · exact langConcat_iff_mlangCat ih
  · simp only [Node.lang, Node.mlang, langAlt_iff, mlangAlt_iff]
    constructor
    · rintro ⟨x, hx, h⟩
      obtain ⟨m, hm, e⟩ := (ih x hx w).mp h
      exact ⟨m, ⟨x, hx, hm⟩, e⟩
    · rintro ⟨m, ⟨x, hx, hm⟩, e⟩
      exact ⟨x, hx, (ih x hx w).mpr ⟨m, hm, e⟩⟩
  · exact star_iff_mstar ih
  · simp [Node.lang, Node.mlang, Lang.eps, eq_comm]
  · simp [Node.lang, Node.mlang, Lang.set, eq_comm]

theorem mlang_erase (n : Node) (m : MWord) (h : Node.mlang n m) : Node.lang n (m.map (·.2)) :=
  (lang_iff_mlang n _).mpr ⟨m, h, rfl⟩

theorem mlang_lift (n : Node) (w : List Rune) (h : Node.lang n w) : ∃ m, Node.mlang n m ∧ m.map (·.2) = w :=
  (lang_iff_mlang n w).mp h

theorem mlangAlt_erase : (xs : List Node) → (m : MWord) → mlangAlt xs m → langAlt xs (m.map (·.2)) :=
  fun xs m h => mlang_erase (.alt xs) m h

theorem mlangAlt_lift : (xs : List Node) → (w : List Rune) → langAlt xs w → ∃ m, mlangAlt xs m ∧ m.map (·.2) = w :=
  fun xs w h => mlang_lift (.alt xs) w h

/-- the empty marked word: exactly when `nullable` -/
theorem mlang_nil_iff (n : Node) : Node.mlang n [] ↔ n.nullable = true := by
  rw [nullable_iff_lang, lang_iff_mlang]
  simp

theorem mlangCat_nil_iff (xs : List Node) : mlangCat xs [] ↔ allNullable xs = true :=
  mlang_nil_iff (.concat xs)

/-! ### first and last positions -/

theorem firstCat_of {xs : List Node} (ih : ∀ x ∈ xs, ∀ a m, Node.mlang x (a :: m) → a.1 ∈ x.firstPos) :
    ∀ a m, mlangCat xs (a :: m) → a.1 ∈ firstConcat xs := by
  induction xs with
  | nil => intro a m h; simp [mlangCat] at h
  | cons x xs ihx =>
    have ⟨hx, hxs⟩ := List.forall_mem_cons.mp ih
    rintro a m ⟨u, v, huv, hu, hv⟩
    cases u with
    | nil =>
      obtain rfl : v = a :: m := huv.symm
      exact mem_firstConcat_cons.mpr (Or.inr ⟨(mlang_nil_iff x).mp hu, ihx hxs a m hv⟩)
    | cons b u' =>
      obtain rfl : a = b := (List.cons.inj huv).1
      exact mem_firstConcat_cons.mpr (Or.inl (hx a u' hu))

/-- **firstPos is sound**: the first position of every non-empty marked word is in `firstPos` -/
theorem first_sound : ∀ (n : Node) (a : Nat × Rune) (m : MWord), Node.mlang n (a :: m) → a.1 ∈ n.firstPos := by
  refine Node.induct (fun xs ih => firstCat_of ih) (fun xs ih a m h => ?_) (fun x ih a m h => ?_)
    (fun a m h => nomatch h) (fun c p a m h => ?_)
  · obtain ⟨x, hx, h⟩ := (mlangAlt_iff xs _).mp h
    rw [Node.firstPos, firstAlt_eq]
    exact List.mem_flatMap.mpr ⟨x, hx, ih x hx a m h⟩
  · -- the first non-empty iteration supplies the first position
    generalize hw : a :: m = w at h
    induction h with
    | nil => cases hw
    | app u v hu _ ihv =>
      cases u with
      | nil => exact ihv hw
      | cons b u' =>
        obtain rfl : a = b := (List.cons.inj hw).1
        exact ih a u' hu
  · obtain rfl : a = (p, c) := (List.cons.inj h).1
    exact List.mem_singleton.mpr rfl

theorem firstCat_sound : (xs : List Node) → (a : Nat × Rune) → (m : MWord) → mlangCat xs (a :: m) → a.1 ∈ firstConcat xs :=
  fun xs => first_sound (.concat xs)

theorem lastCat_of {xs : List Node} (ih : ∀ x ∈ xs, ∀ m a, Node.mlang x (m ++ [a]) → a.1 ∈ x.lastPos) :
    ∀ m a, mlangCat xs (m ++ [a]) → a.1 ∈ lastConcat xs := by
  induction xs with
  | nil => intro m a h; simp [mlangCat] at h
  | cons x xs ihx =>
    have ⟨hx, hxs⟩ := List.forall_mem_cons.mp ih
    rintro m a ⟨u, v, huv, hu, hv⟩
    rcases append_eq_snoc huv.symm with ⟨rfl, rfl⟩ | ⟨v', rfl, _⟩
    · exact mem_lastConcat_cons.mpr (Or.inr ⟨(mlangCat_nil_iff xs).mp hv, hx m a hu⟩)
    · exact mem_lastConcat_cons.mpr (Or.inl (ihx hxs v' a hv))

/-- **lastPos is sound**: the last position of every non-empty marked word is in `lastPos` -/
theorem last_sound : ∀ (n : Node) (m : MWord) (a : Nat × Rune), Node.mlang n (m ++ [a]) → a.1 ∈ n.lastPos := by
  refine Node.induct (fun xs ih => lastCat_of ih) (fun xs ih m a h => ?_) (fun x ih m a h => ?_)
    (fun m a h => ?_) (fun c p m a h => ?_)
  · obtain ⟨x, hx, h⟩ := (mlangAlt_iff xs _).mp h
    rw [Node.lastPos, lastAlt_eq]
    exact List.mem_flatMap.mpr ⟨x, hx, ih x hx m a h⟩
  · generalize hw : m ++ [a] = w at h
    induction h generalizing m with
    | nil => simp at hw
    | app u v hu _ ihv =>
      rcases append_eq_snoc hw.symm with ⟨_, rfl⟩ | ⟨v', rfl, _⟩
      · exact ih m a hu
      · exact ihv v' rfl
  · simp [Node.mlang] at h
  · obtain ⟨-, rfl⟩ : m = [] ∧ a = (p, c) := by
      cases m with
      | nil => exact ⟨rfl, (List.cons.inj h).1⟩
      | cons b m' => simp [Node.mlang] at h
    exact List.mem_singleton.mpr rfl

theorem lastCat_sound : (xs : List Node) → (m : MWord) → (a : Nat × Rune) → mlangCat xs (m ++ [a]) → a.1 ∈ lastConcat xs :=
  fun xs => last_sound (.concat xs)

theorem lastAlt_sound : (xs : List Node) → (m : MWord) → (a : Nat × Rune) → mlangAlt xs (m ++ [a]) → a.1 ∈ lastAlt xs :=
  fun xs => last_sound (.alt xs)

/-! ### the follow relation -/

/-- a pair crossing from an operand of a concatenation into a later one, the operands between being nullable -/
def Cross (xs : List Node) (p q : Nat) : Prop :=
  ∃ a x pre y post, xs = a ++ x :: (pre ++ y :: post) ∧ allNullable pre = true ∧ p ∈ x.lastPos ∧ q ∈ y.firstPos

mutual
def Fol : Node → Nat → Nat → Prop
  | .concat xs, p, q => FolList xs p q ∨ Cross xs p q
  | .alt xs, p, q => FolList xs p q
  | .star x, p, q => Fol x p q ∨ (p ∈ x.lastPos ∧ q ∈ x.firstPos)
  | .empty, _, _ => False
  | .char _ _, _, _ => False
def FolList : List Node → Nat → Nat → Prop
  | [], _, _ => False
  | x :: xs, p, q => Fol x p q ∨ FolList xs p q
end

theorem folList_iff (xs : List Node) (p q : Nat) : FolList xs p q ↔ ∃ x ∈ xs, Fol x p q := by
  induction xs with
  | nil => simp [FolList]
  | cons x xs ih => simp [FolList, ih]

/-- the positions a concatenation can start with: `firstPos` of an operand behind nullable ones -/
theorem mem_firstConcat {xs : List Node} {q : Nat} :
    q ∈ firstConcat xs ↔ ∃ pre y post, xs = pre ++ y :: post ∧ allNullable pre = true ∧ q ∈ y.firstPos := by
  induction xs with
  | nil => simp [firstConcat]
  | cons x xs ih =>
    rw [mem_firstConcat_cons, ih]
    constructor
    · rintro (h | ⟨hn, pre, y, post, rfl, hpre, hy⟩)
      · exact ⟨[], x, xs, rfl, rfl, h⟩
      · exact ⟨x :: pre, y, post, rfl, by simp only [allNullable, hn, hpre, Bool.and_self], hy⟩
    · rintro ⟨pre, y, post, e, hpre, hy⟩
      cases pre with
      | nil => obtain ⟨rfl, -⟩ := List.cons.inj e; exact Or.inl hy
      | cons z pre' =>
        obtain ⟨rfl, rfl⟩ := List.cons.inj e
        simp only [allNullable, Bool.and_eq_true] at hpre
        exact Or.inr ⟨hpre.1, pre', y, post, rfl, hpre.2, hy⟩

theorem cross_nil (p q : Nat) : ¬ Cross [] p q := by
  rintro ⟨a, x, pre, y, post, e, -⟩
  simp at e

/-- `Cross` by recursion on the operands: out of the first operand into what the rest can start with, or within the rest -/
theorem cross_cons (x : Node) (xs : List Node) (p q : Nat) :
    Cross (x :: xs) p q ↔ (p ∈ x.lastPos ∧ q ∈ firstConcat xs) ∨ Cross xs p q := by
  constructor
  · rintro ⟨a, x', pre, y, post, e, hn, hp, hq⟩
    cases a with
    | nil =>
      obtain ⟨rfl, rfl⟩ := List.cons.inj e
      exact Or.inl ⟨hp, mem_firstConcat.mpr ⟨pre, y, post, rfl, hn, hq⟩⟩
    | cons z a' =>
      obtain ⟨rfl, rfl⟩ := List.cons.inj e
      exact Or.inr ⟨a', x', pre, y, post, rfl, hn, hp, hq⟩
  · rintro (⟨hp, hq⟩ | ⟨a, x', pre, y, post, rfl, hn, hp, hq⟩)
    · obtain ⟨pre, y, post, rfl, hn, hq⟩ := mem_firstConcat.mp hq
      exact ⟨[], x, pre, y, post, rfl, hn, hp, hq⟩
    · exact ⟨x :: a, x', pre, y, post, rfl, hn, hp, hq⟩

/-! ### neighbours in a marked word follow one another -/

/-- `q` comes directly after `p` somewhere in the marked word -/
def Adj (m : MWord) (p q : Nat) : Prop := ∃ u v c d, m = u ++ (p, c) :: (q, d) :: v

theorem not_adj_nil (p q : Nat) : ¬ Adj [] p q := by
  rintro ⟨u, v, c, d, e⟩
  cases u <;> simp at e

theorem adj_cons (a : Nat × Rune) (l : MWord) (p q : Nat) :
    Adj (a :: l) p q ↔ (p = a.1 ∧ ∃ b rest, l = b :: rest ∧ q = b.1) ∨ Adj l p q := by
  constructor
  · rintro ⟨u, v, c, d, e⟩
    cases u with
    | nil =>
      simp only [List.nil_append, List.cons.injEq] at e
      exact Or.inl ⟨by rw [e.1], _, v, e.2, rfl⟩
    | cons z u =>
      simp only [List.cons_append, List.cons.injEq] at e
      exact Or.inr ⟨u, v, c, d, e.2⟩
  · rintro (⟨rfl, b, rest, rfl, rfl⟩ | ⟨u, v, c, d, e⟩)
    · exact ⟨[], rest, a.2, b.2, rfl⟩
    · exact ⟨a :: u, v, c, d, by rw [e]; rfl⟩

/-- a relation holds along `a :: l` iff it holds from `a` to the head of `l` and along `l` -/
theorem forall_adj_cons (R : Nat → Nat → Prop) (a : Nat × Rune) (l : MWord) :
    (∀ p q, Adj (a :: l) p q → R p q) ↔ (∀ b rest, l = b :: rest → R a.1 b.1) ∧ ∀ p q, Adj l p q → R p q := by
  simp only [adj_cons, or_imp, forall_and, and_imp, forall_exists_index]
  exact and_congr ⟨fun h b rest e => h _ _ rfl b rest e rfl, fun h p q hp b rest e hq => hp ▸ hq ▸ h b rest e⟩ Iff.rfl

theorem not_adj_single (a : Nat × Rune) (p q : Nat) : ¬ Adj [a] p q := by
  simp [adj_cons, not_adj_nil]

theorem adj_left {u : MWord} (v : MWord) {p q : Nat} (h : Adj u p q) : Adj (u ++ v) p q := by
  obtain ⟨a, b, c, d, rfl⟩ := h
  exact ⟨a, b ++ v, c, d, by simp⟩

theorem adj_right (u : MWord) {v : MWord} {p q : Nat} (h : Adj v p q) : Adj (u ++ v) p q := by
  obtain ⟨a, b, c, d, rfl⟩ := h
  exact ⟨u ++ a, b, c, d, by simp⟩

theorem adj_cross (u v : MWord) (p q : Nat) (c d : Rune) : Adj ((u ++ [(p, c)]) ++ (q, d) :: v) p q :=
  ⟨u, v, c, d, by simp⟩

/-- a neighbouring pair of `u ++ v` lies in `u`, in `v`, or is the last of `u` with the first of `v` -/
theorem adj_append {u v : MWord} {p q : Nat} (h : Adj (u ++ v) p q) :
    Adj u p q ∨ Adj v p q ∨ ∃ u' c v' d, u = u' ++ [(p, c)] ∧ v = (q, d) :: v' := by
  obtain ⟨a, b, c, d, e⟩ := h
  rcases List.append_eq_append_iff.mp e with ⟨a', rfl, hv⟩ | ⟨c', rfl, hrest⟩
  · exact Or.inr (Or.inl ⟨a', b, c, d, hv⟩)
  · match c' with
    | [] => exact Or.inr (Or.inl ⟨[], b, c, d, hrest.symm⟩)
    | [z] =>
      simp only [List.cons_append, List.nil_append, List.cons.injEq] at hrest
      obtain ⟨rfl, rfl⟩ := hrest
      exact Or.inr (Or.inr ⟨a, c, b, d, rfl, rfl⟩)
    | z :: z2 :: c3 =>
      simp only [List.cons_append, List.cons.injEq] at hrest
      obtain ⟨rfl, rfl, -⟩ := hrest
      exact Or.inl ⟨a, c3, c, d, rfl⟩

theorem adj_folCat {xs : List Node} {p q : Nat} (ih : ∀ x ∈ xs, ∀ m, Node.mlang x m → Adj m p q → Fol x p q) :
    ∀ m, mlangCat xs m → Adj m p q → FolList xs p q ∨ Cross xs p q := by
  induction xs with
  | nil => rintro m rfl ha; exact absurd ha (not_adj_nil p q)
  | cons x xs ihx =>
    have ⟨hx, hxs⟩ := List.forall_mem_cons.mp ih
    rintro m ⟨u, v, rfl, hu, hv⟩ ha
    rw [FolList, cross_cons]
    rcases adj_append ha with h | h | ⟨u', c, v', d, rfl, rfl⟩
    · exact Or.inl (Or.inl (hx u hu h))
    · rcases ihx hxs v hv h with h | h
      · exact Or.inl (Or.inr h)
      · exact Or.inr (Or.inr h)
    · exact Or.inr (Or.inl ⟨last_sound x u' (p, c) hu, firstCat_sound xs (q, d) v' hv⟩)

/-- **The follow relation is sound**: whenever `q` directly follows `p` in a marked word of the tree, `Fol` relates them -/
theorem adj_fol {p q : Nat} : ∀ (n : Node) (m : MWord), Node.mlang n m → Adj m p q → Fol n p q := by
  refine Node.induct (fun xs ih => adj_folCat ih) (fun xs ih m h ha => ?_) (fun x ih m h ha => ?_)
    (fun m h ha => ?_) (fun c p0 m h ha => ?_)
  · obtain ⟨x, hx, h⟩ := (mlangAlt_iff xs m).mp h
    exact (folList_iff xs p q).mpr ⟨x, hx, ih x hx m h ha⟩
  · rw [Fol]
    have hstar := h
    induction h with
    | nil => exact absurd ha (not_adj_nil p q)
    | app u v hu hv ihv =>
      rcases adj_append ha with h | h | ⟨u', c, v', d, rfl, rfl⟩
      · exact Or.inl (ih u hu h)
      · exact ihv h hv
      · exact Or.inr ⟨last_sound x u' (p, c) hu, first_sound (.star x) (q, d) v' hv⟩
  · subst h; exact absurd ha (not_adj_nil p q)
  · subst h; exact absurd ha (not_adj_single _ p q)

/-! ### `computeFollows` adds exactly the follow relation -/

theorem get_update (m : FollowMap) (p p' : Nat) (f : Poses → Poses) :
    (m.update p f).get p' = if p' = p then f (m.get p) else m.get p' := by
  induction m with
  | nil => simp only [FollowMap.update, FollowMap.get, eq_comm (a := p)]
  | cons kv m ih =>
    obtain ⟨k, v⟩ := kv
    by_cases hk : k = p
    · subst hk
      by_cases h : p' = k <;> simp [FollowMap.update, FollowMap.get, h, eq_comm (a := k)]
    · by_cases h : p' = k
      · subst h; simp [FollowMap.update, FollowMap.get, hk]
      · simp [FollowMap.update, FollowMap.get, hk, ih, h, eq_comm (a := k)]

theorem mem_union (a b : Poses) (q : Nat) : q ∈ Poses.union a b ↔ q ∈ a ∨ q ∈ b := by
  rw [Poses.union, mem_foldl_addNew fun x => x]
  simp only [exists_eq_right]

/-- adding a set `F` to the entries of the positions `ps` -/
theorem mem_foldl_update (g : Poses → Poses) (F : Poses) (hg : ∀ cur q, q ∈ g cur ↔ q ∈ cur ∨ q ∈ F)
    (ps : List Nat) (m : FollowMap) (p q : Nat) :
    q ∈ (ps.foldl (fun acc p => acc.update p g) m).get p ↔ q ∈ m.get p ∨ (p ∈ ps ∧ q ∈ F) := by
  induction ps generalizing m with
  | nil => simp
  | cons a ps ih =>
    rw [List.foldl_cons, ih, get_update, List.mem_cons]
    by_cases h : p = a
    · subst h; simp only [if_true, hg, true_or, true_and, or_assoc]
      constructor
      · rintro (h | h | h); exact Or.inl h; exact Or.inr h; exact Or.inr h.2
      · rintro (h | h); exact Or.inl h; exact Or.inr (Or.inl h)
    · simp only [h, if_false, false_or]

/-- an operand's last positions are followed by whatever the operands after it can start with -/
theorem mem_followsOfOperand (x : Node) (ys : List Node) (m : FollowMap) (p q : Nat) :
    q ∈ (followsOfOperand m x ys).get p ↔ q ∈ m.get p ∨ (p ∈ x.lastPos ∧ q ∈ firstConcat ys) := by
  induction ys generalizing m with
  | nil => simp [followsOfOperand, firstConcat]
  | cons y ys ih =>
    have h := mem_foldl_update (fun cur => Poses.union cur y.firstPos) y.firstPos (fun cur q => mem_union cur _ q) x.lastPos m p q
    simp only [followsOfOperand, firstConcat]
    split
    · rw [ih, h, List.mem_append, or_assoc, and_or_left]
    · exact h

theorem mem_concatPairs (xs : List Node) (m : FollowMap) (p q : Nat) :
    q ∈ (concatPairs m xs).get p ↔ q ∈ m.get p ∨ Cross xs p q := by
  induction xs generalizing m with
  | nil => simp [concatPairs, cross_nil]
  | cons x xs ih => rw [concatPairs, ih, mem_followsOfOperand, cross_cons, or_assoc]

theorem mem_followsList_of {xs : List Node} {p q : Nat}
    (ih : ∀ x ∈ xs, ∀ M, q ∈ (computeFollows M x).get p ↔ q ∈ M.get p ∨ Fol x p q) (M : FollowMap) :
    q ∈ (followsList M xs).get p ↔ q ∈ M.get p ∨ FolList xs p q := by
  induction xs generalizing M with
  | nil => simp [followsList, FolList]
  | cons x xs ihx =>
    have ⟨hx, hxs⟩ := List.forall_mem_cons.mp ih
    rw [followsList, FolList, ihx hxs, hx, or_assoc]

/-- **followpos is exact**: the follow set computed for `p` holds what the map held before and the followers of `p` -/
theorem mem_computeFollows (p q : Nat) : ∀ (n : Node) (M : FollowMap),
    q ∈ (computeFollows M n).get p ↔ q ∈ M.get p ∨ Fol n p q := by
  refine Node.induct (fun xs ih M => ?_) (fun xs ih M => ?_) (fun x ih M => ?_) (fun M => ?_) (fun c p0 M => ?_)
  · rw [computeFollows, Fol, mem_followsList_of ih, mem_concatPairs, or_assoc, or_comm (a := Cross xs p q)]
  · rw [computeFollows, Fol, mem_followsList_of ih]
  · rw [computeFollows, Fol, ih, mem_foldl_update _ x.firstPos (fun _ _ => List.mem_append), or_assoc,
      or_comm (a := Fol x p q)]
  · simp [computeFollows, Fol]
  · simp [computeFollows, Fol]

theorem mem_followsList (xs : List Node) (M : FollowMap) (p q : Nat) :
    q ∈ (followsList M xs).get p ↔ q ∈ M.get p ∨ FolList xs p q :=
  mem_followsList_of (fun x _ => mem_computeFollows p q x) M

theorem followsList_only : (xs : List Node) → (M : FollowMap) → (p q : Nat) →
    q ∈ (followsList M xs).get p → q ∈ M.get p ∨ FolList xs p q :=
  fun xs M p q => (mem_followsList xs M p q).mp

theorem get_nil (p : Nat) : FollowMap.get [] p = [] := rfl

/-- from the empty map: exactly the follow relation -/
theorem computed_follow_is_Fol (n : Node) (p q : Nat) (h : q ∈ (computeFollows [] n).get p) : Fol n p q :=
  ((mem_computeFollows p q n []).mp h).resolve_left (by simp [get_nil])

/-- **followpos is sound**: whenever `q` directly follows `p` in a marked word of the tree, `q` is in the follow set
    computed for `p` (whatever the map held before) -/
theorem follow_sound (n : Node) (m : MWord) (h : Node.mlang n m) (p q : Nat) (ha : Adj m p q) (M : FollowMap) :
    q ∈ (computeFollows M n).get p :=
  (mem_computeFollows p q n M).mpr (Or.inr (adj_fol n m h ha))

/-- all pairs that cross from an operand of a concatenation into a later one (the operands between being nullable) -/
def HasCross (M : FollowMap) (xs : List Node) : Prop :=
  ∀ a x pre y post, xs = a ++ x :: (pre ++ y :: post) → allNullable pre = true →
    ∀ p, p ∈ x.lastPos → ∀ q, q ∈ y.firstPos → q ∈ M.get p

theorem followCat_sound : (xs : List Node) → (m : MWord) → mlangCat xs m → ∀ p q, Adj m p q → ∀ M, HasCross M xs →
    q ∈ (followsList M xs).get p := by
  intro xs m h p q ha M hc
  rw [mem_followsList]
  rcases adj_fol (.concat xs) m h ha with h | ⟨a, x, pre, y, post, e, hn, hp, hq⟩
  · exact Or.inr h
  · exact Or.inl (hc a x pre y post e hn p hp q hq)

theorem followAlt_sound : (xs : List Node) → (m : MWord) → mlangAlt xs m → ∀ p q, Adj m p q → ∀ M,
    q ∈ (followsList M xs).get p :=
  fun xs m h p q ha M => (mem_followsList xs M p q).mpr (Or.inr (adj_fol (.alt xs) m h ha))

end Emerge.Props.C10
