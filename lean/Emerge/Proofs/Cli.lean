import Emerge.Cli
/-
  What the stages of the command-line model guarantee, from one system call up to `generate` (each keeps what
  existed and, if it reports success, has written what it was to write: `Post`), and the inversion of `run`:
  it stops early or hands over to `generate` (`Ends`, `run_ends`).
-/
namespace Emerge.Cli

theorem FS.get_append (fs fs' : FS) (q : String) : FS.get (fs ++ fs') q = (FS.get fs q).or (FS.get fs' q) := by
  induction fs with
  | nil => rfl
  | cons e rest ih =>
    simp only [List.cons_append, FS.get]
    split
    · rfl
    · exact ih

def FS.Extends (fs fs' : FS) : Prop := ∀ q n, fs.get q = some n → fs'.get q = some n

theorem FS.Extends.refl (fs : FS) : fs.Extends fs := fun _ _ h => h

theorem FS.Extends.trans {fs fs₁ fs₂ : FS} (h₁ : fs.Extends fs₁) (h₂ : fs₁.Extends fs₂) : fs.Extends fs₂ :=
  fun q n h => h₂ q n (h₁ q n h)

/-- The guarantee of every stage, from one system call to the whole generator, started on `fs` and returning the file
    system `r.1` and the verdict `r.2`: what existed stays as it was, and a stage that reports success leaves each of
    the listed nodes at its path. -/
def Post (fs : FS) (r : FS × Bool) (written : List (String × Node)) : Prop :=
  fs.Extends r.1 ∧ (r.2 = true → ∀ e ∈ written, r.1.get e.1 = some e.2)

theorem Post.failed {fs : FS} {written : List (String × Node)} : Post fs (fs, false) written :=
  ⟨.refl fs, nofun⟩

/-- Two stages in a row: what the first wrote is among what existed for the second, which therefore keeps it. -/
theorem Post.seq {fs : FS} {r₁ r₂ : FS × Bool} {w₁ w₂ : List (String × Node)} (h₁ : Post fs r₁ w₁) (h₂ : Post r₁.1 r₂ w₂) :
    Post fs (r₂.1, r₁.2 && r₂.2) (w₁ ++ w₂) := by
  refine ⟨h₁.1.trans h₂.1, fun hok e he => ?_⟩
  rw [Bool.and_eq_true] at hok
  rcases List.mem_append.mp he with he | he
  · exact h₂.1 _ _ (h₁.2 hok.1 e he)
  · exact h₂.2 hok.2 e he

/-- A stage that puts a node at a free path - the node it was to put there if it reports success (after a write that
    failed half-way, something shorter). -/
theorem Post.appended {fs : FS} {p : String} {v v' : Node} {ok : Bool} (hfree : fs.get p = none) (hv : ok = true → v = v') :
    Post fs (fs ++ [(p, v)], ok) [(p, v')] := by
  refine ⟨fun q n h => by rw [FS.get_append, h]; rfl, fun hok e he => ?_⟩
  rw [List.mem_singleton.mp he, FS.get_append, hfree, hv hok]
  simp [FS.get]

theorem mkdir_post (fs : FS) (p : String) (f : Fault) : Post fs (applyOp fs (.mkdir p) f) [(p, .dir)] := by
  simp only [applyOp]
  cases h : fs.get p with
  | some _ => exact .failed
  | none =>
    cases f with
    | none => exact .appended h fun _ => rfl
    | fail | half => exact .failed

theorem create_post (fs : FS) (p c : String) (f : Fault) : Post fs (applyOp fs (.create p c) f) [(p, .file c)] := by
  simp only [applyOp]
  cases h : fs.get p with
  | some _ => exact .failed
  | none =>
    cases f with
    | none => exact .appended h fun _ => rfl
    | fail => exact .failed
    | half => exact .appended h nofun

def rendered (dir : String) (render : String → String) (files : List String) : List (String × Node) :=
  files.map fun f => (dir ++ "/" ++ f, .file (render f))

theorem renderAll_post (dir : String) (render : String → String) (files : List String) : ∀ (fs : FS) (faults : List Fault),
    Post fs ((renderAll dir render files fs faults).1, (renderAll dir render files fs faults).2.1) (rendered dir render files) := by
  induction files with
  | nil => exact fun fs _ => ⟨.refl fs, fun _ _ he => nomatch he⟩
  | cons f rest ih =>
    exact fun fs faults => (create_post fs _ _ _).seq (ih _ _)

/-- a stage of `generate` that is skipped, and counted as failed, when its table could not be built -/
theorem stage_post {b : Bool} {dir : String} {render : String → String} {files : List String} {fs : FS} {faults : List Fault}
    {r : FS × Bool × List Fault} (hr : r = if b then renderAll dir render files fs faults else (fs, false, faults)) :
    Post fs (r.1, r.2.1) (rendered dir render files) ∧ (r.2.1 = true → b = true) := by
  subst hr
  cases b
  · exact ⟨.failed, nofun⟩
  · exact ⟨renderAll_post dir render files fs faults, fun _ => rfl⟩

theorem generate_post {fs : FS} {out name : String} {idValid : String → Bool} {sr : SpecResult} {render : String → String}
    {faults : List Fault} :
    Post fs (generate fs out name idValid sr render faults) (rendered (out ++ "/" ++ name) render allFiles) ∧
    ((generate fs out name idValid sr render faults).2 = true →
      fs.get out = some .dir ∧ idValid name = true ∧ sr.lexerOk = true ∧ sr.parserOk = true) := by
  generalize hg : generate fs out name idValid sr render faults = g
  unfold generate at hg
  split at hg
  case h_2 => subst hg; exact ⟨.failed, nofun⟩
  case h_1 hout =>
    by_cases hid : (!idValid name) = true
    · rw [if_pos hid] at hg; subst hg; exact ⟨.failed, nofun⟩
    rw [if_neg hid] at hg
    extract_lets dir m c l p at hg
    have hm : Post fs m _ := mkdir_post fs dir _
    by_cases hm2 : (!m.2) = true
    · rw [if_pos hm2] at hg; subst hg; exact ⟨⟨hm.1, nofun⟩, nofun⟩
    rw [if_neg hm2] at hg
    subst hg
    have hc : Post m.1 (c.1, c.2.1) _ := renderAll_post dir render coreFiles _ _
    have hl := stage_post (r := l) rfl
    have hp := stage_post (r := p) rfl
    have hclp := (hc.seq hl.1).seq hp.1
    rw [rendered, rendered, rendered, ← List.map_append, ← List.map_append] at hclp
    refine ⟨⟨hm.1.trans hclp.1, hclp.2⟩, fun hok => ?_⟩
    simp only [Bool.and_eq_true] at hok
    exact ⟨hout, by simpa using hid, hl.2 hok.1.2, hp.2 hok.2⟩

theorem generate_bad_name {fs : FS} {out name : String} {idValid : String → Bool} {sr : SpecResult}
    {render : String → String} {faults : List Fault} (hbad : idValid name = false) :
    generate fs out name idValid sr render faults = (fs, false) := by
  unfold generate
  split
  · simp [hbad]
  · rfl

/-- the run gets as far as the generator -/
structure Proceeds (fl : Flags) (input : InputState) (sr : SpecResult) : Prop where
  parsed : fl.parseError = false
  noInfo : fl.usage = false ∧ fl.help = false ∧ fl.version = false
  oneFile : ∃ f, fl.args = [f] ∧ f.startsWith "-" = false
  readable : input = .readable
  specOk : sr.parseOk = true

theorem Flags.file_eq_some {fl : Flags} {f : String} (h : fl.file = some f) (hx : ¬ 1 < fl.args.length) :
    fl.args = [f] ∧ f.startsWith "-" = false := by
  unfold Flags.file at h
  have hp : f.startsWith "-" = false := by simpa using List.find?_some h
  match hargs : fl.args with
  | [] => rw [hargs] at h; cases h
  | [a] =>
    rw [hargs, List.find?_singleton] at h
    split at h
    · cases h; exact ⟨rfl, hp⟩
    · cases h
  | a :: b :: rest => simp [hargs] at hx

/-- how a run ends that stops before the generator: `main` answers a command line that does not parse with status 2
    and one that only asks for information with status 0; every refusal by `Run` gives status 1 -/
def Flags.stopStatus (fl : Flags) : Nat :=
  if fl.parseError then 2 else if fl.usage ∨ fl.help ∨ fl.version then 0 else 1

theorem Flags.stopStatus_le (fl : Flags) : fl.stopStatus ≤ 2 := by
  unfold Flags.stopStatus
  split
  · exact Nat.le_refl 2
  · split
    · exact Nat.zero_le 2
    · exact Nat.le_succ 1

theorem Flags.stopStatus_eq_zero (fl : Flags) :
    fl.stopStatus = 0 ↔ fl.parseError = false ∧ (fl.usage = true ∨ fl.help = true ∨ fl.version = true) := by
  unfold Flags.stopStatus
  cases fl.parseError
  · by_cases h : fl.usage = true ∨ fl.help = true ∨ fl.version = true
    · simp [h]
    · simp [h]
  · simp

/-- **How a run ends**, `g` being what the generator makes of the file system if it is called: the run stops before
    the generator - nothing is touched, nothing is announced as done, the reason is printed - or it gets as far as
    the generator, whose verdict decides the rest. -/
inductive Ends (fl : Flags) (fs : FS) (input : InputState) (sr : SpecResult) (g : FS × Bool) : Result → Prop
  | stopped : Ends fl fs input sr g ⟨fs, fl.stopStatus, false, true⟩
  | generated : Proceeds fl input sr → Ends fl fs input sr g ⟨g.1, if g.2 then 0 else 1, g.2, !g.2⟩

theorem run_ends {fl : Flags} {fs : FS} {input : InputState} {sr : SpecResult} {idValid : String → Bool}
    {render : String → String} {faults : List Fault} :
    Ends fl fs input sr (generate fs fl.out (chosenName fl sr) idValid sr render faults)
      (run fl fs input sr idValid render faults) := by
  unfold run
  generalize generate fs fl.out (chosenName fl sr) idValid sr render faults = g
  -- with `stopStatus` unfolded next to `run`, deciding a flag makes the early exit it guards and the status compute
  have stop : Ends fl fs input sr g ⟨fs, fl.stopStatus, false, true⟩ := .stopped
  unfold Flags.stopStatus at stop
  revert stop
  cases hpe : fl.parseError
  case true => exact id
  cases hu : fl.usage
  case true => exact id
  cases hh : fl.help
  case true => exact id
  cases hv : fl.version
  case true => exact id
  cases hfile : fl.file
  case none => exact id
  case some f =>
  by_cases hx : 1 < fl.args.length
  · rw [if_pos hx]; exact id
  rw [if_neg hx]
  cases input
  case readable =>
    cases hp : sr.parseOk
    case false => exact id
    have hp : Proceeds fl .readable sr := ⟨hpe, ⟨hu, hh, hv⟩, ⟨f, Flags.file_eq_some hfile hx⟩, rfl, hp⟩
    obtain ⟨_, ok⟩ := g
    cases ok <;> exact fun _ => .generated hp
  all_goals exact id

variable {fl : Flags} {fs : FS} {input : InputState} {sr : SpecResult} {g : FS × Bool} {r : Result}

/-- The whole run is a stage like the others: what existed stays, and announced success means the package is there. -/
theorem Ends.post {written : List (String × Node)} (h : Ends fl fs input sr g r) (hg : Post fs g written) :
    Post fs (r.fs, r.success) written := by
  cases h
  · exact .failed
  · exact hg

theorem Ends.message (h : Ends fl fs input sr g r) : r.message = !r.success := by
  cases h <;> rfl

theorem Ends.exit_le (h : Ends fl fs input sr g r) : r.exit ≤ 2 := by
  cases h
  · exact fl.stopStatus_le
  · show (if _ then 0 else 1) ≤ 2
    split <;> decide

theorem Ends.exit_zero_iff (h : Ends fl fs input sr g r) :
    r.exit = 0 ↔ r.success = true ∨ fl.parseError = false ∧ (fl.usage = true ∨ fl.help = true ∨ fl.version = true) := by
  cases h with
  | stopped => simp [fl.stopStatus_eq_zero]
  | generated hp => simp [hp.noInfo]

theorem Ends.success (h : Ends fl fs input sr g r) (hs : r.success = true) :
    Proceeds fl input sr ∧ g.2 = true ∧ r.exit = 0 := by
  cases h with
  | stopped => cases hs
  | generated hp => exact ⟨hp, hs, if_pos hs⟩

/-- Unless the generator is called and does something, nothing is touched, and the run fails. -/
theorem Ends.refused (h : Ends fl fs input sr g r) (hinfo : fl.usage = false ∧ fl.help = false ∧ fl.version = false)
    (hg : Proceeds fl input sr → g = (fs, false)) : r.fs = fs ∧ r.exit ≠ 0 ∧ r.success = false := by
  have hs : r.fs = fs ∧ r.success = false := by
    cases h with
    | stopped => exact ⟨rfl, rfl⟩
    | generated hp => rw [hg hp]; exact ⟨rfl, rfl⟩
  refine ⟨hs.1, ?_, hs.2⟩
  rw [Ne, h.exit_zero_iff, hs.2]
  simp [hinfo]

end Emerge.Cli
