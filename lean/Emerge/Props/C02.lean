import Emerge.Inst.Regex
/-
  C02 — token patterns compile to automata accepting exactly the pattern's language.

  Layers: text --(regenerated grammar, interpreted)--> `Pat` --(`compileN`: the NFA-route mappers)-->
  a term `NExp` over the dependency's NFA operations --(contract `NExp.lang`)--> language.
  Documented meaning: `Pat.denote` (= language of the plain regular expression `Pat.toRe`).
  The determinise/minimise/prune/renumber pipeline is the dependency's; it is validated per pattern
  against the derivative automaton of `Pat.toRe`, whose correctness is `C02_oracle`.
-/
namespace Emerge.Props.C02
open Emerge Emerge.Regex

abbrev T := Gen.Regex.runeClasses

/-- **Construction correct (finding F3 repaired)**: for every pattern tree — every class, negation,
    bracket group, range, grouping, alternation and quantifier form, lazy or not — the automaton
    term the mappers build has exactly the documented language. -/
theorem C02_compile_correct (p : Pat) : ∀ w, (compileN T p).lang RCfg.fixed w ↔ p.denote T w :=
  compileN_lang_fixed T Inst.Regex.ascii_ok p

def NExp.nulFree : NExp → Bool
  | .sym rs => !rs.contains 0
  | .eps => true
  | .union a b => NExp.nulFree a && NExp.nulFree b
  | .cat a b => NExp.nulFree a && NExp.nulFree b
  | .star a => NExp.nulFree a

theorem nulFree_lang (n : NExp) (h : NExp.nulFree n = true) : n.lang RCfg.current = n.lang RCfg.fixed := by
  induction n with
  | sym rs =>
    simp only [NExp.nulFree, Bool.not_eq_true'] at h
    simp only [NExp.lang, h, Bool.and_false, Bool.false_eq_true, if_false]
  | eps => rfl
  | union a b iha ihb =>
    simp only [NExp.nulFree, Bool.and_eq_true] at h
    simp only [NExp.lang, iha h.1, ihb h.2]
  | cat a b iha ihb =>
    simp only [NExp.nulFree, Bool.and_eq_true] at h
    simp only [NExp.lang, iha h.1, ihb h.2]
  | star a ih => exact congrArg Lang.star (ih h)

/-- **The code as it is** (`RCfg.current`: a transition on NUL is an ε-move in the automata library)
    is correct for every pattern whose construction never issues a transition on NUL — i.e. without
    `.`, negated classes/groups, `[:ascii:]`, `\x00` … -/
theorem C02_compile_correct_partial (p : Pat) (h : NExp.nulFree (compileN T p) = true) :
    ∀ w, (compileN T p).lang RCfg.current w ↔ p.denote T w :=
  nulFree_lang _ h ▸ compileN_lang_fixed T Inst.Regex.ascii_ok p

/-- … and it is *not* correct otherwise (finding F3): the automaton of `.` accepts the empty string,
    which the documented meaning of `.` ("any single character") does not contain. -/
theorem C02_dot_accepts_empty : (compileN T .any).lang RCfg.current [] ∧ ¬ Pat.denote T .any [] := by
  constructor
  · have h0 : ((classRunes T "ASCII").getD []).contains 0 = true := by decide +kernel
    simp only [compileN, NExp.lang, RCfg.current, h0, Bool.and_self, if_true]
    exact Or.inl rfl
  · rintro ⟨r, _, h⟩; cases h

/-- The lazy modifier has no effect on the automaton. -/
theorem C02_lazy_irrelevant (p : Pat) (q : Quant) : compileN T (.quant p q true) = compileN T (.quant p q false) := rfl

/-- `{n}` is `n` copies, `{n,}` is `n` copies then any number, `{n,m}` is `n` copies then up to `m-n` more;
    `?` is zero or one, `+` one or more: the documented meaning used above, spelled out. -/
theorem C02_quantifier_meaning (p : Pat) (lz : Bool) :
    (∀ n, Pat.denote T (.quant p (.rep n (some n)) lz) ≃ Lang.pow (p.denote T) n) ∧
    (∀ n, Pat.denote T (.quant p (.rep n none) lz) ≃ Lang.cat (Lang.pow (p.denote T) n) (Lang.star (p.denote T))) ∧
    (∀ n m, Pat.denote T (.quant p (.rep n (some m)) lz) ≃ Lang.cat (Lang.pow (p.denote T) n) (Lang.upto (p.denote T) (m - n))) ∧
    (Pat.denote T (.quant p .opt lz) ≃ Lang.union Lang.eps (p.denote T)) ∧
    (Pat.denote T (.quant p .plus lz) ≃ Lang.cat (p.denote T) (Lang.star (p.denote T))) := by
  have h (q : Quant) := Pat.denote_quant T p q lz
  refine ⟨fun n => .of_eq ?_, fun n => .of_eq (h _), fun n m => .of_eq (h _), .of_eq (h _), .of_eq (h _)⟩
  -- `{n}` is `{n,n}`: no further copy
  rw [h, Lang.quant, Nat.sub_self, Lang.upto, Lang.cat_eps_right]

/-- The oracle of the violation search is sound and complete for the documented meaning:
    the derivative matcher accepts `w` iff `w` is in the pattern's documented language. -/
theorem C02_oracle (p : Pat) (w : List Rune) : (p.toRe T).matchD w = true ↔ p.denote T w :=
  Re.matchD_iff _ w

/-- … and for the model of the code (either configuration). -/
theorem C02_oracle_model (cfg : RCfg) (n : NExp) (w : List Rune) : (n.toRe cfg).matchD w = true ↔ n.lang cfg w := by
  rw [Re.matchD_iff, NExp.toRe_lang]

/-- Non-vacuity: `(a|b)*c{1,2}` parses, and its automaton term accepts "abc" and rejects "ab". -/
example :
    (match parsePat Gen.Regex.rules Gen.Regex.top T ("(a|b)*c{1,2}".toList.map Char.toNat) with
     | .ok p => ((compileN T p).toRe RCfg.fixed).matchD [97, 98, 99] && !((compileN T p).toRe RCfg.fixed).matchD [97, 98]
     | _ => false) = true := by decide +kernel

end Emerge.Props.C02
