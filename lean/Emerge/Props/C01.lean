import Emerge.Proofs.GrammarLang
import Emerge.Proofs.EbnfTable
import Emerge.Proofs.EbnfEval
/-
  C01 — EBNF-to-grammar translation preserves the language of every rule.

  Proved for every piece of the translation; the pieces are not assembled into one theorem over the
  reduction sequence of a whole specification (what remains outside is listed at the end).
  The `Strings` algebra of the translation (item (i) of DESIGN §5/C01): juxtaposition is the
  concatenation of languages, `|` the union, a trailing `|` adds the empty string — for every
  interpretation of the non-terminals; memo keys behave as sets.  The four operator actions add exactly
  the documented production shapes (`C01_closure`), and in the least fixed point of the final production
  list a non-terminal with such a shape denotes `⟦s⟧`, `⟦s⟧ ∪ ε`, `⟦s⟧*`, `⟦s⟧⁺` (`C01_operator`; `⟦s⟧`
  read in the same fixed point, so nesting, sharing and recursion through the operand are covered;
  `C01_fixed_point`, `C01_least` say what "the language of a rule" is).  Across a whole specification:
  the invariant `TableOk` (every memoised name has exactly its operator's productions; names are not
  shared between operator classes) holds for the empty table, is preserved by every operator action, by
  adding a rule whose name is not a synthesised one and by everything that leaves productions and memo
  alone (`C01_table_*`), so in the final table every operator occurrence denotes what the documentation
  says (`C01_table_operator`).  Hypotheses, stated in the theorems: a newly synthesised name is unused
  (the code tries |NT|+1 numbered candidates; injectivity of decimal printing is not proved), and a
  rule's name is not a synthesised name - exactly what finding F2b violates in the code as it is.
  The right-hand sides: `Rhs` is the tree of a right-hand side, `denote` its documented meaning,
  `evalRhs` the semantic actions 23-31 over it (children first, left to right, the table threaded
  through; `C01_actions`: each case IS the corresponding case of `Ebnf.action`, by `rfl`).
  `C01_eval`: the alternatives the evaluation returns denote, in the least fixed point of any later
  well-formed table extending the one reached - the final table of the specification - exactly the
  meaning of the tree; `C01_rule_lang`: the language of a rule's name is the union of the meanings
  of its right-hand sides.  What remains outside the theorems: that the LR driver calls the
  actions in the order of the tree (C18's theorems, generic), the hypotheses above (fresh names, no
  clash with synthesised names - the place of findings F14/F2b), and the tie of `Ebnf.action` to
  the Go code (correspondence + bounded language comparison per generated specification).
-/
namespace Emerge.Props.C01
open Emerge Emerge.Ebnf

/-- `rhs → rhs "|" rhs` (action 28): alternation is the union of the languages. -/
theorem C01_alt (env : String → Lang) (s1 s2 : Strings) (w : List String) :
    langStrings env (s1 ++ s2) w ↔ Lang.union (langStrings env s1) (langStrings env s2) w := by
  rw [langStrings_append]

/-- `rhs → rhs "|"` (action 29): a trailing `|` adds the empty string and nothing else. -/
theorem C01_alt_empty (env : String → Lang) (s : Strings) (w : List String) :
    langStrings env (s ++ [[]]) w ↔ Lang.union (langStrings env s) Lang.eps w := by
  rw [langStrings_append, langStrings_singleton]; rfl

/-- `rhs → rhs rhs` (action 23): juxtaposition — the cross product of the alternatives — is the
    concatenation of the languages. -/
theorem C01_juxtapose (env : String → Lang) (s1 s2 : Strings) (w : List String) :
    langStrings env (s1.flatMap fun α => s2.map fun β => α ++ β) w ↔
      Lang.cat (langStrings env s1) (langStrings env s2) w := by
  rw [langStrings_juxtapose]

/-- single symbols (actions 30, 31) -/
theorem C01_atoms (env : String → Lang) (a A : String) (w : List String) :
    (langStrings env [[.t a]] w ↔ w = [a]) ∧ (langStrings env [[.nt A]] w ↔ env A w) := by
  rw [langStrings_singleton, langStrings_singleton, langString_t, langString_nt]
  exact ⟨Iff.rfl, Iff.rfl⟩

/-- Memo keys: set-equal alternative lists denote the same language (so sharing one synthesised
    non-terminal between them is sound). -/
theorem C01_key_sound (env : String → Lang) (s1 s2 : Strings) (h : eqStrings s1 s2 = true) (w : List String) :
    langStrings env s1 w ↔ langStrings env s2 w := by
  rw [langStrings_congr env (eqStrings_iff.mp h)]

theorem keyEq_eqStrings (s1 s2 : Strings) (h : keyEq s1 s2 = true) : eqStrings s1 s2 = true := eqStrings_of_keyEq h

/-! ### the language of a rule, and what the operators denote in it -/

/-- **What "the language of a rule" is**: a word of `A` is a word of one of `A`'s bodies, read in the same
    languages … -/
theorem C01_fixed_point (P : List GProd) (A : String) (w : List String) :
    L P A w ↔ langStrings (L P) (alts P A) w := by
  rw [← L_fix]

/-- … and it is the least such interpretation. -/
theorem C01_least (P : List GProd) (env : String → Lang)
    (hclosed : ∀ A w, langStrings env (alts P A) w → env A w) : ∀ A w, L P A w → env A w := L_least P env hclosed

/-- **The operators mean what the documentation says.** In any final production list `P` in which the non-terminal
    `n` has exactly the bodies of the shape of kind `k` for the operand `s`, `n` denotes `⟦s⟧`, `⟦s⟧ ∪ ε`, `⟦s⟧*`,
    `⟦s⟧⁺` — `⟦s⟧` read in the least fixed point of the whole grammar. -/
theorem C01_operator (P : List GProd) (k : Kind) (n : String) (s : Strings)
    (hshape : ∀ β, ⟨n, β⟩ ∈ P ↔ ShapeMem k n s β) (w : List String) :
    L P n w ↔ shapeLang k (langStrings (L P) s) w := by
  rw [lang_operator P k n s hshape]

/-- `( s )`: `N → α` for the alternatives `α` of `s` -/
theorem C01_group (P : List GProd) (N : String) (s : Strings)
    (hshape : ∀ β, ⟨N, β⟩ ∈ P ↔ β ∈ s) (w : List String) :
    L P N w ↔ langStrings (L P) s w := C01_operator P .group N s hshape w

/-- `[ s ]`: `N → α | ε` -/
theorem C01_opt (P : List GProd) (N : String) (s : Strings)
    (hshape : ∀ β, ⟨N, β⟩ ∈ P ↔ β ∈ s ∨ β = []) (w : List String) :
    L P N w ↔ langStrings (L P) s w ∨ w = [] := C01_operator P .opt N s hshape w

/-- `{ s }`: `N → N α | ε` denotes the Kleene star of `⟦s⟧` -/
theorem C01_star (P : List GProd) (N : String) (s : Strings)
    (hshape : ∀ β, ⟨N, β⟩ ∈ P ↔ (∃ α ∈ s, β = prepend N α) ∨ β = []) (w : List String) :
    L P N w ↔ Star (langStrings (L P) s) w := C01_operator P .star N s hshape w

/-- `{{ s }}`: `N → N α | α` denotes one or more words of `⟦s⟧` -/
theorem C01_plus (P : List GProd) (N : String) (s : Strings)
    (hshape : ∀ β, ⟨N, β⟩ ∈ P ↔ (∃ α ∈ s, β = prepend N α) ∨ β ∈ s) (w : List String) :
    L P N w ↔ Plus (langStrings (L P) s) w := C01_operator P .plus N s hshape w

/-- **What the operator actions add** (`{ }`, `{{ }}`, `[ ]`, `( )`; model of GetStar/GetPlus/GetOpt/GetGroup + AddProduction):
    exactly the documented production shapes under the returned non-terminal; nothing else is added, nothing removed. -/
theorem C01_closure (cfg : Cfg) (names : List (String × String)) (t : SymTab) (s : Strings) (k : Kind) (q : GProd) :
    q ∈ (closureAction cfg names t s k).1.prods ↔
      q ∈ t.prods ∨ (q.head = (closureAction cfg names t s k).2 ∧ ShapeMem k (closureAction cfg names t s k).2 s q.body) :=
  closureAction_prods cfg names t s k q

/-! ### across a whole specification: the invariant of the symbol table -/

/-- the empty table is well-formed … -/
theorem C01_table_empty : TableOk {} := TableOk.empty

/-- … every operator action keeps it so (a newly synthesised name being unused) … -/
theorem C01_table_closure {t : SymTab} (h : TableOk t) (cfg : Cfg) (names : List (String × String)) (s : Strings) (k : Kind)
    (hfresh : (mapStringToNonTerminal cfg names t s k.suffix).2 ∉ t.nonTerminals) :
    TableOk (closureAction cfg names t s k).1 := h.closure cfg names s k hfresh

/-- … adding a production of a rule whose name is registered and is not a synthesised name keeps it so … -/
theorem C01_table_rule {t : SymTab} (h : TableOk t) (A : String) (α : GString) (hA : A ∈ t.nonTerminals)
    (hclash : ∀ s e, (s, e) ∈ t.memo → ∀ k, e.get k ≠ A) : TableOk (addProduction t ⟨A, α⟩) := h.addRule A α hA hclash

/-- … and so does every action that leaves productions and memo alone and only registers names. -/
theorem C01_table_frame {t t' : SymTab} (h : TableOk t) (hp : t'.prods = t.prods) (hm : t'.memo = t.memo)
    (hn : ∀ x, x ∈ t.nonTerminals → x ∈ t'.nonTerminals) : TableOk t' := h.frame hp hm hn

/-- **In a well-formed table every operator occurrence means what the documentation says**: the name memoised for an
    operator of kind `k` over the operand `s` denotes `⟦s⟧`, `⟦s⟧ ∪ ε`, `⟦s⟧*`, `⟦s⟧⁺` in the least fixed point of the
    table's productions - whatever else the specification contains, before or after. -/
theorem C01_table_operator {t : SymTab} (h : TableOk t) {s : Strings} {e : MemoEntry} (hm : (s, e) ∈ t.memo) (k : Kind)
    (hne : e.get k ≠ "") (w : List String) :
    L t.prods (e.get k) w ↔ shapeLang k (langStrings (L t.prods) s) w :=
  C01_operator t.prods k (e.get k) s (h.shape s e hm k hne).2 w

/-! ### right-hand sides: the actions compute the EBNF meaning -/

/-- **The semantic actions compute the EBNF meaning of a right-hand side** (see `evalRhs_sound`). -/
theorem C01_eval (cfg : Cfg) (names : List (String × String)) (r : Rhs) (t : SymTab)
    (ht : TableOk t) (hf : FreshNames cfg names t r) :
    TableOk (evalRhs cfg names t r).1 ∧ Ext t (evalRhs cfg names t r).1 ∧
    ∀ t'', TableOk t'' → Ext (evalRhs cfg names t r).1 t'' →
      ∀ w, langStrings (L t''.prods) (evalRhs cfg names t r).2 w ↔ denote (L t''.prods) r w :=
  evalRhs_sound cfg names r t ht hf

/-- **The language of a rule's name is the union of the meanings of its right-hand sides.** -/
theorem C01_rule_lang (P : List GProd) (A : String) (rules : List (Rhs × Strings))
    (hmean : ∀ rs, rs ∈ rules → ∀ w, langStrings (L P) rs.2 w ↔ denote (L P) rs.1 w)
    (hprods : ∀ α, ⟨A, α⟩ ∈ P ↔ ∃ rs, rs ∈ rules ∧ α ∈ rs.2) (w : List String) :
    L P A w ↔ ∃ rs, rs ∈ rules ∧ denote (L P) rs.1 w := rule_lang P A rules hmean hprods w

/-- adding a rule's productions keeps the table well-formed, only extends it, and adds exactly those productions -/
theorem C01_table_rules {t : SymTab} (h : TableOk t) (A : String) (hA : A ∈ t.nonTerminals)
    (hclash : ∀ s e, (s, e) ∈ t.memo → ∀ k, e.get k ≠ A) (s : Strings) :
    TableOk ((s.map fun α => (⟨A, α⟩ : GProd)).foldl addProduction t) ∧
    Ext t ((s.map fun α => (⟨A, α⟩ : GProd)).foldl addProduction t) ∧
    (∀ q, q ∈ ((s.map fun α => (⟨A, α⟩ : GProd)).foldl addProduction t).prods ↔ q ∈ t.prods ∨ ∃ α ∈ s, q = ⟨A, α⟩) :=
  h.addRules A hA hclash s

/-- `evalRhs` is `Ebnf.action`, case by case (the model of the 35 semantic actions that the correspondence ties to
    `spec.Parse`): operators, juxtaposition, alternation, trailing bar, atoms and the rule action. -/
theorem C01_actions (cfg : Cfg) (file : String) (names predefs : List (String × String)) (t : SymTab) (p0 p1 p2 : Option Pos)
    (x y : Val) (s s1 s2 : Strings) (a A : String) :
    action cfg file names predefs t 31 [⟨.term a, p0⟩] = .ok (t, .strings [[.t a]]) ∧
    action cfg file names predefs t 30 [⟨.nonterm A, p0⟩] = .ok (t, .strings [[.nt A]]) ∧
    action cfg file names predefs t 23 [⟨.strings s1, p0⟩, ⟨.strings s2, p1⟩] =
      .ok (t, .strings (s1.flatMap fun α => s2.map fun β => α ++ β)) ∧
    action cfg file names predefs t 28 [⟨.strings s1, p0⟩, ⟨x, p1⟩, ⟨.strings s2, p2⟩] = .ok (t, .strings (s1 ++ s2)) ∧
    action cfg file names predefs t 29 [⟨.strings s1, p0⟩, ⟨x, p1⟩] = .ok (t, .strings (s1 ++ [[]])) ∧
    (∀ k : Kind, action cfg file names predefs t (match k with | .group => 24 | .opt => 25 | .star => 26 | .plus => 27)
        [⟨x, p0⟩, ⟨.strings s, p1⟩, ⟨y, p2⟩] =
      .ok ((closureAction cfg names t s k).1, .strings [[.nt (closureAction cfg names t s k).2]])) ∧
    action cfg file names predefs t 20 [⟨.nonterm A, p0⟩, ⟨x, p1⟩, ⟨.strings s, p2⟩] =
      .ok ((s.map fun α => (⟨A, α⟩ : GProd)).foldl addProduction t, .prods (s.map fun α => (⟨A, α⟩ : GProd))) :=
  ⟨rfl, rfl, rfl, rfl, rfl, fun k => by cases k <;> rfl, rfl⟩

/-- Non-vacuity of `C01_eval`: `{ "a" } [ y ] |` evaluated on the empty table - the synthesised names are fresh. -/
example : FreshNames Cfg.current terminalNames {} (.altEmpty (.cat (.op .star (.term "a")) (.op .opt (.nonterm "y")))) := by
  simp only [FreshNames, evalRhs]
  exact ⟨⟨trivial, by decide, by decide⟩, trivial, by decide, by decide⟩

/-- Non-vacuity: `{ "a" }` followed by `[ x ]` on an empty table - both names are fresh, the invariant holds. -/
example : TableOk (closureAction Cfg.current terminalNames
    (closureAction Cfg.current terminalNames {} [[.t "a"]] .star).1 [[.nt "x"]] .opt).1 :=
  C01_table_closure (C01_table_closure C01_table_empty _ _ _ _ (by decide)) _ _ _ _ (by decide)

/-- Non-vacuity: for `x = { "a" "b" }`-style tables the hypotheses are met and the language is as expected. -/
example : L [⟨"n", [.nt "n", .t "a"]⟩, ⟨"n", []⟩] "n" ["a", "a"] :=
  (C01_operator _ .star "n" [[.t "a"]] (by
      intro β; simp [ShapeMem, prepend]) _).mpr
    (Star.cons ["a"] ["a"] ⟨[.t "a"], by simp, ["a"], [], rfl, rfl, rfl⟩
      (by simpa using Star.cons ["a"] [] ⟨[.t "a"], by simp, ["a"], [], rfl, rfl, rfl⟩ Star.nil))

end Emerge.Props.C01
