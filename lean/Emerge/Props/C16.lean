import Emerge.Proofs.Cli
import Emerge.Gen.FsOps
import Emerge.Gen.CliFlags
import Emerge.Proofs.CliArgs
import Emerge.Proofs.CliIdent
import Emerge.Gen.IdRules
/-
  C16 — success iff the package was fully written; flags honoured; existing files untouched.

  Theorems about the model `Emerge.Cli.run` for every flag combination, every initial file system,
  every outcome of reading the specification and every sequence of failing system calls.  The model is
  tied to the binary by running it under a matrix of flags × input classes × pre-existing states
  of the output location and comparing exit status, created paths, snapshots and the final message
  (checks/c16.py); that the only mutating calls in /repo are the two modelled ones is re-established
  from the source on every run (translator fact `fsops`).
-/
namespace Emerge.Props.C16
open Emerge Emerge.Cli

/-- **Existing files are untouched**: whatever the flags, the input, the result of reading the
    specification and the failing calls, every path that existed before the run holds the same
    node (same kind, same content) afterwards. -/
theorem C16_frame (fl : Flags) (fs : FS) (input : InputState) (sr : SpecResult) (idValid : String → Bool)
    (render : String → String) (faults : List Fault) (q : String) (n : Node) (h : fs.get q = some n) :
    (run fl fs input sr idValid render faults).fs.get q = some n :=
  (run_ends.post generate_post.1).1 q n h

/-- **Success ⇒ the package was fully written and the specification accepted**: when the tool
    announces success (which it does exactly when it exits with status 0 after a generation run),
    the input was readable, the specification was accepted by every stage, the name is usable, and
    each of the six files exists under `<out>/<name>` with its complete rendered content. -/
theorem C16_success (fl : Flags) (fs : FS) (input : InputState) (sr : SpecResult) (idValid : String → Bool)
    (render : String → String) (faults : List Fault)
    (h : (run fl fs input sr idValid render faults).success = true) :
    input = .readable ∧ sr.parseOk = true ∧ sr.lexerOk = true ∧ sr.parserOk = true ∧ idValid (chosenName fl sr) = true ∧
    fs.get fl.out = some .dir ∧
    (run fl fs input sr idValid render faults).exit = 0 ∧
    ∀ f ∈ allFiles, (run fl fs input sr idValid render faults).fs.get (fl.out ++ "/" ++ chosenName fl sr ++ "/" ++ f) = some (.file (render f)) := by
  obtain ⟨hp, hg, hexit⟩ := run_ends.success h
  obtain ⟨hout, hid, hl, hpa⟩ := generate_post.2 hg
  exact ⟨hp.readable, hp.specOk, hl, hpa, hid, hout, hexit,
    fun f hf => (run_ends.post generate_post.1).2 h _ (List.mem_map_of_mem hf)⟩

/-- **Status 0 iff success or an informational flag**: apart from `-h`, `-help`, `-version`, the
    tool exits with status 0 exactly when it announced success. -/
theorem C16_exit_zero_iff (fl : Flags) (fs : FS) (input : InputState) (sr : SpecResult) (idValid : String → Bool)
    (render : String → String) (faults : List Fault) (hinfo : fl.usage = false ∧ fl.help = false ∧ fl.version = false) :
    (run fl fs input sr idValid render faults).exit = 0 ↔ (run fl fs input sr idValid render faults).success = true := by
  rw [run_ends.exit_zero_iff]
  simp [hinfo]

/-- **A name that is not a usable package identifier is rejected before anything is created.** -/
theorem C16_bad_name (fl : Flags) (fs : FS) (input : InputState) (sr : SpecResult) (idValid : String → Bool)
    (render : String → String) (faults : List Fault)
    (hinfo : fl.usage = false ∧ fl.help = false ∧ fl.version = false)
    (hbad : idValid (chosenName fl sr) = false) :
    (run fl fs input sr idValid render faults).fs = fs ∧ (run fl fs input sr idValid render faults).exit ≠ 0 :=
  (run_ends.refused hinfo fun _ => generate_bad_name hbad).imp_right And.left

/-- `-name` replaces the grammar's name (that `-out` selects the parent directory is in the paths of `C16_success`). -/
theorem C16_flags (fl : Flags) (sr : SpecResult) :
    (fl.name ≠ "" → chosenName fl sr = fl.name) ∧ (fl.name = "" → chosenName fl sr = sr.grammarName) :=
  ⟨fun h => if_pos h, fun h => if_neg (not_not_intro h)⟩

/-- **Nothing on the command line is ignored**: when the tool announces success, what the flag set left over was exactly
    one argument, the input file - no `-out` or `-name` written after the file (the flag set stops at the first argument
    that is not a flag, so such flags never reach `Flags.out` / `Flags.name`), no second file. Together with `C16_flags`:
    every `-out` and `-name` of a successful command line was honoured. -/
theorem C16_no_ignored_arguments (fl : Flags) (fs : FS) (input : InputState) (sr : SpecResult) (idValid : String → Bool)
    (render : String → String) (faults : List Fault)
    (h : (run fl fs input sr idValid render faults).success = true) :
    ∃ f, fl.args = [f] ∧ f.startsWith "-" = false :=
  (run_ends.success h).1.oneFile

/-- flags after the input file, or a second file: an error, nothing created, whatever else holds -/
theorem C16_extra_arguments_rejected (fl : Flags) (fs : FS) (input : InputState) (sr : SpecResult) (idValid : String → Bool)
    (render : String → String) (faults : List Fault)
    (hinfo : fl.usage = false ∧ fl.help = false ∧ fl.version = false) (hx : 1 < fl.args.length) :
    (run fl fs input sr idValid render faults).fs = fs ∧ (run fl fs input sr idValid render faults).exit ≠ 0 ∧
    (run fl fs input sr idValid render faults).success = false := by
  refine run_ends.refused hinfo fun hp => ?_
  obtain ⟨f, hf, _⟩ := hp.oneFile
  rw [hf] at hx
  exact absurd hx (Nat.lt_irrefl 1)

open Emerge.Ident in
/-- The reserved names regenerated from the source are the specification's keywords and predeclared identifiers. -/
theorem builtin_perm : Gen.IdRules.builtin.Perm (goKeywords ++ goPredeclared) := by decide +kernel

open Emerge.Ident in
/-- **Reserved names are refused**: whatever the Unicode classes are, no keyword and no predeclared identifier of the Go
    specification is a usable package name, nor is the blank identifier or the empty name - with the list of reserved
    names, the regular expression and the statement of `isIDValid` re-extracted from the source on every run. -/
theorem C16_reserved_names (isL isNd : Char → Bool) :
    (∀ k ∈ goKeywords ++ goPredeclared, isIDValid isL isNd Gen.IdRules.builtin k = false) ∧
    isIDValid isL isNd Gen.IdRules.builtin "_" = false ∧ isIDValid isL isNd Gen.IdRules.builtin "" = false ∧
    Gen.IdRules.idRegex = "^[\\p{L}_][\\p{L}\\p{Nd}_]*$" ∧
    Gen.IdRules.body_isIDValid =
      "{ return idRegex.MatchString(name) && name != \"_\" && !generic.AnyMatch(builtin, func(s string) bool { return s == name }) }" := by
  simp only [← Bool.not_eq_true, isIDValid_iff]
  exact ⟨fun k hk h => h.2.2 (builtin_perm.mem_iff.mpr hk), fun h => h.2.1 rfl, fun h => Bool.noConfusion h.1, rfl, rfl⟩

open Emerge.Ident in
/-- **Only identifiers are usable**: a name the rule accepts starts with a letter or `_`, continues with letters, decimal
    digits and `_` only (so no path separator, no dot, no blank, no minus), is not `_` and is not reserved; and the list of
    reserved names holds nothing but the specification's keywords and predeclared identifiers (no ordinary name is refused
    by the list). -/
theorem C16_usable_names (isL isNd : Char → Bool) (name : String)
    (h : isIDValid isL isNd Gen.IdRules.builtin name = true) :
    (∃ c cs, name.toList = c :: cs ∧ (isL c = true ∨ c = '_') ∧ ∀ d ∈ cs, isL d = true ∨ isNd d = true ∨ d = '_') ∧
    name ≠ "_" ∧ name ∉ Gen.IdRules.builtin ∧
    (∀ b ∈ Gen.IdRules.builtin, b ∈ goKeywords ++ goPredeclared) := by
  obtain ⟨hs, hne, hb⟩ := (isIDValid_iff ..).mp h
  refine ⟨?_, hne, hb, fun b => builtin_perm.mem_iff.mp⟩
  cases hl : name.toList with
  | nil => rw [hl] at hs; cases hs
  | cons c cs => rw [hl] at hs; exact ⟨c, cs, rfl, (shape_cons ..).mp hs⟩

open Emerge.CliArgs in
/-- **The command line of a successful run**: the arguments are flags the set knows, consumed completely, followed by
    exactly one more argument, the input file; the package went to the value of the last `-out` among them (the working
    directory if there is none) under the last `-name` (the grammar's name if there is none or it is empty). -/
theorem C16_cmdline_success (argv : List String) (cwd : String) (fs : FS) (input : InputState) (sr : SpecResult)
    (idValid : String → Bool) (render : String → String) (faults : List Fault)
    (h : (run (toFlags Gen.CliFlags.flags cwd argv) fs input sr idValid render faults).success = true) :
    ∃ pre file sets, argv = pre ++ [file] ∧ file.startsWith "-" = false ∧
      parse Gen.CliFlags.flags argv [] = .ok sets [file] ∧
      ∀ f ∈ allFiles, (run (toFlags Gen.CliFlags.flags cwd argv) fs input sr idValid render faults).fs.get
        ((sets.lookup "out").getD cwd ++ "/" ++ (if (sets.lookup "name").getD "" ≠ "" then (sets.lookup "name").getD "" else sr.grammarName)
          ++ "/" ++ f) = some (.file (render f)) := by
  generalize Gen.CliFlags.flags = T at h ⊢  -- true of every table of flags
  have hfiles := (C16_success _ fs input sr idValid render faults h).2.2.2.2.2.2.2
  obtain ⟨hp, -, -⟩ := run_ends.success h
  obtain ⟨file, hargs, hdash⟩ := hp.oneFile
  have hpe := hp.parsed
  have hu := hp.noInfo.1
  unfold toFlags at hpe hu hargs hfiles ⊢
  cases hparse : parse T argv [] with
  | bad => rw [hparse] at hpe; cases hpe
  | help => rw [hparse] at hu; cases hu
  | ok sets rest =>
    simp only [hparse] at hargs hfiles ⊢
    subst hargs
    obtain ⟨pre, hpre⟩ := parse_suffix _ _ _ _ _ hparse
    exact ⟨pre, file, sets, hpre, hdash, rfl, hfiles⟩

open Emerge.CliArgs in
/-- **Flags behind the input file are never read as flags**: when the arguments `pre` are flags consumed completely and
    `file` is not one, whatever follows the file - a `-out`, a `-name`, another file - changes none of the settings and is
    handed to `Run` as it stands, which refuses it (`C16_extra_arguments_rejected`): nothing is created. -/
theorem C16_cmdline_trailing (pre : List String) (file x : String) (post : List String) (cwd : String)
    (sets : List (String × String)) (fs : FS) (input : InputState) (sr : SpecResult)
    (idValid : String → Bool) (render : String → String) (faults : List Fault)
    (hpre : parse Gen.CliFlags.flags pre [] = .ok sets []) (hfile : classify file = .positional)
    (hdash : file.startsWith "-" = false)
    (hinfo : isSet sets "help" = false ∧ isSet sets "version" = false) :
    (run (toFlags Gen.CliFlags.flags cwd (pre ++ file :: x :: post)) fs input sr idValid render faults).fs = fs ∧
    (run (toFlags Gen.CliFlags.flags cwd (pre ++ file :: x :: post)) fs input sr idValid render faults).exit = 1 := by
  generalize Gen.CliFlags.flags = T at hpre ⊢  -- true of every table of flags
  have hp := parse_stops_at_positional T pre [] sets file (x :: post) hfile hpre
  unfold toFlags
  simp only [hp]
  simp [run, hinfo.1, hinfo.2, Flags.file, hdash]

/-- **The tie to the source**: the flags are those of `command.Command`'s struct tags, and `main` creates the set with
    `ContinueOnError`, registers them, parses `os.Args[1:]`, maps `flag.ErrHelp` to status 0 and any other parse error to
    2, and hands `fs.Args()` to `Run` - re-extracted on every run. -/
theorem C16_flag_table : Gen.CliFlags.flags =
    [("help", .bool), ("version", .bool), ("verbose", .bool), ("out", .str), ("name", .str), ("debug", .bool)] ∧
    Gen.CliFlags.mainCalls =
    ["flag.NewFlagSet(\"emerge\",flag.ContinueOnError)", "os.Exit(1)", "flagit.Register(fs,cmd,false)", "os.Exit(1)",
     "fs.Parse(os.Args[1:])", "errors.Is(err,flag.ErrHelp)", "os.Exit(0)", "os.Exit(2)", "os.Exit(1)", "cmd.Run(fs.Args())",
     "os.Exit(1)", "os.Exit(0)"] := ⟨rfl, rfl⟩

/-- **The tie to the source**: the calls that can change the file system in the tool's non-test code,
    re-extracted from /repo on every run, are exactly the two the model issues — `os.Mkdir` in `prepare`
    and `os.OpenFile` with `O_CREATE|O_WRONLY|O_EXCL` in `renderTemplate` (no Remove, Rename, Truncate,
    WriteFile, MkdirAll, Create …). -/
theorem C16_only_modelled_calls : Gen.FsOps.calls =
    [("internal/generate/golang/golang.go", "prepare", "os.Mkdir", "os.ModePerm"),
     ("internal/generate/golang/golang.go", "renderTemplate", "os.OpenFile", "os.O_CREATE | os.O_WRONLY | os.O_EXCL, 0666")] := rfl

/-- Non-vacuity: a successful run into an existing directory that already holds another file. -/
def demoFS : FS := [("/o", .dir), ("/o/keep.txt", .file "x")]
def demoFlags : Flags := { out := "/o", name := "", args := ["g.ebnf"] }
def demoSpec : SpecResult := ⟨true, "calc", true, true⟩
example : (run demoFlags demoFS .readable demoSpec (fun _ => true) (fun f => "// " ++ f) []).success = true := by decide +kernel
example : (run demoFlags demoFS .readable demoSpec (fun _ => true) (fun f => "// " ++ f) []).fs.get "/o/keep.txt" = some (.file "x") := by decide +kernel
example : (run demoFlags demoFS .readable demoSpec (fun _ => true) (fun f => "// " ++ f) [.none, .none, .half]).exit = 1 := by decide +kernel
/-- `emerge g.ebnf -out /elsewhere`: rejected, nothing written -/
example : (run { demoFlags with args := ["g.ebnf", "-out", "/elsewhere"] } demoFS .readable demoSpec (fun _ => true) (fun f => "// " ++ f) []).exit = 1 := by decide +kernel

/-- the documented way to call the tool, and the way that used to be ignored in silence -/
example : CliArgs.toFlags Gen.CliFlags.flags "/cwd" ["-out", "/o", "--name=p", "-debug", "g.ebnf"] =
    { out := "/o", name := "p", args := ["g.ebnf"] } := by decide +kernel
example : (run (CliArgs.toFlags Gen.CliFlags.flags "/o" ["g.ebnf", "-name", "p"]) demoFS .readable demoSpec (fun _ => true) (fun f => "// " ++ f) []).exit = 1 := by
  decide +kernel
example : (run (CliArgs.toFlags Gen.CliFlags.flags "/o" ["-name", "p", "g.ebnf"]) demoFS .readable demoSpec (fun _ => true) (fun f => "// " ++ f) []).fs.get "/o/p/lexer.go"
    = some (.file "// lexer.go") := by decide +kernel

end Emerge.Props.C16
