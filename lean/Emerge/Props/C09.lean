import Emerge.Inst.Regex
import Emerge.Proofs.Comb
/-
  C09 — a pattern is accepted only as a whole sentence of the documented pattern grammar.

  `parsePat Gen.rules Gen.top T` is the model of `nfa.Parse` and of regex `ast.Parse` up to the
  construction of the automaton (both run the same grammar and the same checks); the grammar it
  interprets is regenerated from parser.go on every run and proved equal to the documented one.
-/
namespace Emerge.Props.C09
open Emerge Emerge.Regex

abbrev accept (s : List Rune) : ParseOutcome :=
  parsePat Gen.Regex.rules Gen.Regex.top Gen.Regex.runeClasses s

theorem docRegex_of_yields {s : List Rune} {v : Val}
    (h : Yields (alg Gen.Regex.runeClasses) Gen.Regex.rules (.nt Gen.Regex.top) s v []) : Ref.Regex.DocRegex s := by
  have hm := h.matches_all
  rw [Inst.Regex.rules_eq, Inst.Regex.top_eq] at hm
  exact hm

/-- **Nothing is ignored**: if a pattern is accepted, its *entire* text is a sentence of the
    documented pattern grammar (derivable from `regex`). -/
theorem C09_whole_input (s : List Rune) (p : Pat) (h : accept s = .ok p) : Ref.Regex.DocRegex s := by
  obtain ⟨_, _, hy⟩ := parsePat_ok h
  exact docRegex_of_yields hy

/-- The same for every outcome that got as far as the semantic checks: a pattern is reported as
    *meaningless* (rather than ungrammatical) only if its whole text is grammatical. -/
theorem C09_semantic_is_grammatical (s : List Rune) (es : List String) (h : accept s = .semantic es) :
    Ref.Regex.DocRegex s := by
  obtain ⟨_, _, _, _, hy⟩ := parsePat_semantic h
  exact docRegex_of_yields hy

/-- well-formedness of the ranges of a pattern -/
def GItem.valid : GItem → Bool
  | .range lo hi => decide (lo ≤ hi)
  | _ => true

def Quant.valid : Quant → Bool
  | .rep lo (some u) => decide (lo ≤ u)
  | _ => true

def Pat.valid : Pat → Bool
  | .any | .char _ | .cls _ _ | .snil => true
  | .group _ items => items.all GItem.valid
  | .quant p q _ => Pat.valid p && Quant.valid q
  | .scons a r => Pat.valid a && Pat.valid r
  | .alt a b => Pat.valid a && Pat.valid b

theorem GItem.errors_nil (g : GItem) : g.errors = [] ↔ GItem.valid g = true := by
  cases g <;> simp [GItem.errors, GItem.valid]

theorem Quant.errors_nil (q : Quant) : q.errors = [] ↔ Quant.valid q = true := by
  rcases q with _ | _ | _ | ⟨lo, _ | u⟩ <;> simp [Quant.errors, Quant.valid]

theorem Pat.errors_nil (p : Pat) : p.errors = [] ↔ Pat.valid p = true := by
  induction p with
  | any | char | cls | snil => exact ⟨fun _ => rfl, fun _ => rfl⟩
  | group neg items => simp only [Pat.errors, Pat.valid, List.flatMap_eq_nil_iff, List.all_eq_true, GItem.errors_nil]
  | quant p q l ih => simp only [Pat.errors, Pat.valid, List.append_eq_nil_iff, Bool.and_eq_true, ih, Quant.errors_nil]
  | scons a r iha ihr => simp only [Pat.errors, Pat.valid, List.append_eq_nil_iff, Bool.and_eq_true, iha, ihr]
  | alt a b iha ihb => simp only [Pat.errors, Pat.valid, List.append_eq_nil_iff, Bool.and_eq_true, iha, ihb]

/-- **Meaningless patterns are not accepted**: an accepted pattern has no descending character
    range and no repetition range whose minimum exceeds its maximum. -/
theorem C09_semantic (s : List Rune) (p : Pat) (h : accept s = .ok p) : Pat.valid p = true :=
  (Pat.errors_nil p).mp (parsePat_ok h).1

/-- … and when the text is grammatical but has such a range, the outcome is a semantic error that
    names every offending range (never success, never a bare syntax error). -/
theorem C09_semantic_err (s : List Rune) (es : List String) (h : accept s = .semantic es) :
    es ≠ [] ∧ ∃ p : Pat, es = p.errors ∧ Pat.valid p = false := by
  obtain ⟨hne, p, _, rfl, _⟩ := parsePat_semantic h
  exact ⟨hne, p, rfl, Bool.eq_false_iff.mpr fun hv => hne ((Pat.errors_nil p).mpr hv)⟩

/-- The empty pattern is rejected (and does not crash). -/
theorem C09_empty_rejected : accept [] = .invalid := rfl

/-- **A count that does not fit into a Go `int` is not a number** (the repair d601844 of the silent wrap-around): whatever
    the number mapper returns is at most 2^63 - 1; longer digit strings make it fail, and with it the pattern. -/
theorem C09_counts_fit (T : ClassTable) (v : Val) (n : Nat) (h : app T "toNum" v = some (.int n)) : n ≤ 9223372036854775807 := by
  cases v with
  | list xs =>
    change (if _ > 9223372036854775807 then none else some (Val.int _)) = _ at h
    split at h
    · cases h
    · cases h; omega
  | _ => cases h
example : (app [] "toNum" (.list [.int 9, .int 2, .int 2, .int 3, .int 3, .int 7, .int 2, .int 0, .int 3, .int 6, .int 8, .int 5, .int 4, .int 7, .int 7, .int 5, .int 8, .int 0, .int 7])).isSome = true := by decide +kernel
example : (app [] "toNum" (.list [.int 9, .int 2, .int 2, .int 3, .int 3, .int 7, .int 2, .int 0, .int 3, .int 6, .int 8, .int 5, .int 4, .int 7, .int 7, .int 5, .int 8, .int 0, .int 8])).isNone = true := by decide +kernel

/-- Non-vacuity: `a|b*` and `[a-c]{1,2}` are accepted; `a)` (unparsed suffix), `[c-a]` and `a{2,1}` are not. -/
example : (match accept ("a|b*".toList.map Char.toNat) with | .ok _ => true | _ => false) = true := by decide +kernel
example : accept ("a)".toList.map Char.toNat) = .invalid := by decide +kernel
example : accept ("[c-a]".toList.map Char.toNat) = .semantic ["invalid character range c-a"] := by decide +kernel
example : accept ("a{2,1}".toList.map Char.toNat) = .semantic ["invalid repetition range {2,1}"] := by decide +kernel

end Emerge.Props.C09
