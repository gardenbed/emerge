import Emerge.LREval
import Emerge.Props.C18
import Emerge.Proofs.EbnfTyped
/-
  C11 — the syntax trees of a specification reflect the source exactly.

  Proved here (for every table and every callback sequence): the generic tree that
  `ParseAndBuildAST` assembles from the callbacks has, read left to right, exactly the tokens the
  token callback was given, in order (`C11_leaves`), and every interior node carries a production
  whose body has as many symbols as the node has children (`C11_arity`).  Together with
  `C18_tokens`/`C18_order` (the token callback fires once per token in source order; the production
  callbacks are a rightmost derivation in reverse) this is "the leaves reproduce the significant
  tokens and every interior node applies one rule".
  The typed tree (ebnf/parser/ast): `EbnfTyped.typedAction` models all 35 evaluation actions of
  `ast.Parse` (tied to the code by printing both trees as S-expressions on every generated
  specification); `build` is what they do on the tree of a right-hand side (`C11_typed_actions`,
  `rfl`).  Proved: the typed right-hand side has the atoms of the source in source order
  (`C11_typed_order`), it has the documented meaning of the source (`C11_typed_meaning`: flattening
  juxtapositions/alternations and dropping parentheses change nothing), and therefore the language
  read off the typed tree is the language of the grammar `spec.Parse` derives for the same
  right-hand side (`C11_typed_language`, via C01's `C01_eval`).  The round trip through printing is
  decided per specification by checks/c11.py.
-/
namespace Emerge.Props.C11
open Emerge Emerge.LR

mutual
/-- the tokens at the leaves of a tree, left to right -/
def leaves : Node → List Nat
  | .leaf i => [i]
  | .inner _ cs => leavesList cs
def leavesList : List Node → List Nat
  | [] => []
  | c :: cs => leaves c ++ leavesList cs
end

theorem leavesList_append (a b : List Node) : leavesList (a ++ b) = leavesList a ++ leavesList b := by
  induction a with
  | nil => simp [leavesList]
  | cons x a ih => simp [leavesList, ih, List.append_assoc]

/-- the stack read from the bottom: the leaves of everything built so far -/
def stackLeaves (st : List Node) : List Nat := leavesList st.reverse

/-- tokens handed to the token callback, in order -/
def toks (evs : List Event) : List Nat := evs.filterMap fun e => match e with | .tok i => some i | _ => none

/-- **Leaves = tokens**: whatever the tables, if the tree builder runs through the callback
    sequence, the stack it ends with has, bottom to top and left to right, exactly the tokens of
    the token callbacks, in order. -/
theorem astEvents_leaves (prods : List Prod) : ∀ (evs : List Event) (st st' : List Node),
    astEvents prods evs st = some st' → stackLeaves st' = stackLeaves st ++ toks evs := by
  intro evs st st' h
  refine astEvents_induct (Q := fun evs st => stackLeaves st' = stackLeaves st ++ toks evs) (by simp [toks]) ?_ ?_ evs st h
  · intro i es st ih
    rw [ih]; simp [stackLeaves, leavesList_append, leavesList, leaves, toks]
  · intro p A β es cs st _ _ ih
    rw [ih]; simp [stackLeaves, leavesList_append, leavesList, leaves, toks]

/-- For an accepted specification the root's leaves are the significant tokens 0, 1, …, n-1. -/
theorem C11_leaves {w : List Nat} (hw : ∀ a ∈ w, a ≠ Inst.Tables.raw.eof) {fuel : Nat} {ev : List Event}
    (hacc : parse Inst.Tables.raw.tables w none none fuel = (ev, .accept)) {root : Node} {rest : List Node}
    (hb : astEvents Inst.Tables.raw.tables.prods ev [] = some (root :: rest)) :
    stackLeaves (root :: rest) = List.range w.length := by
  have h1 := astEvents_leaves _ ev [] _ hb
  have h2 := Props.C18.C18_tokens hw hacc
  simp only [stackLeaves, List.reverse_nil, leavesList, List.nil_append] at h1
  rw [show toks ev = Props.C18.tokCalls ev from rfl] at h1
  simp only [stackLeaves]
  rw [h1, h2]

mutual
/-- every interior node has as many children as its production's body has symbols -/
def arityOK (prods : List Prod) : Node → Bool
  | .leaf _ => true
  | .inner p cs => (match prods[p]? with | some (_, β) => β.length == lenList cs | none => false) && arityAll prods cs
def arityAll (prods : List Prod) : List Node → Bool
  | [] => true
  | c :: cs => arityOK prods c && arityAll prods cs
def lenList : List Node → Nat
  | [] => 0
  | _ :: cs => lenList cs + 1
end

theorem lenList_eq (cs : List Node) : lenList cs = cs.length := by
  induction cs with
  | nil => rfl
  | cons c cs ih => simp [lenList, ih]

theorem arityAll_append (prods) (a b : List Node) : arityAll prods (a ++ b) = (arityAll prods a && arityAll prods b) := by
  induction a with
  | nil => simp [arityAll]
  | cons x a ih => simp [arityAll, ih, Bool.and_assoc]

theorem arityAll_reverse (prods) (a : List Node) : arityAll prods a.reverse = arityAll prods a := by
  induction a with
  | nil => rfl
  | cons x a ih => simp [arityAll_append, arityAll, ih, Bool.and_comm]

/-- **Every interior node applies one rule**: the builder only ever creates nodes whose children
    are as many as the body symbols of the node's production. -/
theorem C11_arity (prods : List Prod) : ∀ (evs : List Event) (st st' : List Node),
    astEvents prods evs st = some st' → arityAll prods st = true → arityAll prods st' = true := by
  intro evs st st' h
  refine astEvents_induct (Q := fun _ st => arityAll prods st = true → arityAll prods st' = true) id ?_ ?_ evs st h
  · intro i es st ih hst
    exact ih (by simp [arityAll, arityOK, hst])
  · intro p A β es cs st hp hlen ih hst
    rw [arityAll_append, arityAll_reverse, Bool.and_eq_true] at hst
    exact ih (by simp [arityAll, arityOK, hp, lenList_eq, hlen, hst.1, hst.2])

/-- Non-vacuity: `grammar x ; x = "s" ;` -/
example : (match astEvents Inst.Tables.raw.tables.prods (parse Inst.Tables.raw.tables [13, 17, 1, 17, 0, 19, 1] none none 200).1 [] with
    | some (root :: _) => leaves root == List.range 7 && arityOK Inst.Tables.raw.tables.prods root
    | _ => false) = true := by decide +kernel

/-! ### the typed tree -/

open Emerge.Ebnf Emerge.EbnfTyped Emerge.Props.C01 in
/-- **Operand order**: the typed right-hand side has the terminals, non-terminals and empty alternatives of the source,
    left to right, in the order of the source. -/
theorem C11_typed_order (r : Rhs) : atomsT (build r) = atoms r := build_atoms r

open Emerge.Ebnf Emerge.EbnfTyped Emerge.Props.C01 in
/-- **Meaning**: the typed right-hand side (juxtaposition and alternation flattened, parentheses dropped) has the
    documented meaning of the right-hand side as written, for every interpretation of the non-terminals. -/
theorem C11_typed_meaning (env : String → Lang) (r : Rhs) (w : List String) : denoteT env (build r) w ↔ denote env r w :=
  build_denote env r w

open Emerge.Ebnf Emerge.EbnfTyped Emerge.Props.C01 in
/-- **Agreement with the derived grammar**: the language read off the typed tree of a right-hand side is the language
    of the alternatives `spec.Parse` derives for it, in the least fixed point of any later well-formed table. -/
theorem C11_typed_language (cfg : Cfg) (names : List (String × String)) (r : Rhs) (t : SymTab)
    (ht : TableOk t) (hf : FreshNames cfg names t r) (t'' : SymTab) (ht'' : TableOk t'')
    (hext : Ext (evalRhs cfg names t r).1 t'') (w : List String) :
    denoteT (L t''.prods) (build r) w ↔ langStrings (L t''.prods) (evalRhs cfg names t r).2 w := by
  rw [build_denote]
  exact ((evalRhs_sound cfg names r t ht hf).2.2 t'' ht'' hext w).symm

open Emerge.Ebnf Emerge.EbnfTyped Emerge.Props.C01 in
/-- `build` is `typedAction` (the model of the evaluation function of `ast.Parse`), case by case. -/
theorem C11_typed_actions (pd : List (String × String)) (l r : Rhs) (x y : TVal) (a : String) :
    typedAction pd 31 [.str a] = .ok (.rhs (build (.term a))) ∧
    typedAction pd 30 [.str a] = .ok (.rhs (build (.nonterm a))) ∧
    typedAction pd 23 [.rhs (build l), .rhs (build r)] = .ok (.rhs (build (.cat l r))) ∧
    typedAction pd 28 [.rhs (build l), x, .rhs (build r)] = .ok (.rhs (build (.alt l r))) ∧
    typedAction pd 29 [.rhs (build l), x] = .ok (.rhs (build (.altEmpty l))) ∧
    typedAction pd 24 [x, .rhs (build r), y] = .ok (.rhs (build (.op .group r))) ∧
    typedAction pd 25 [x, .rhs (build r), y] = .ok (.rhs (build (.op .opt r))) ∧
    typedAction pd 26 [x, .rhs (build r), y] = .ok (.rhs (build (.op .star r))) ∧
    typedAction pd 27 [x, .rhs (build r), y] = .ok (.rhs (build (.op .plus r))) :=
  ⟨rfl, rfl, rfl, rfl, rfl, rfl, rfl, rfl, rfl⟩

open Emerge.Ebnf Emerge.EbnfTyped Emerge.Props.C01 in
/-- Non-vacuity: `a ( b c ) d | ( x | y ) |` is built as `alt [concat [a, b, c, d], x, y, ε]`. -/
example : build (.altEmpty (.alt (.cat (.cat (.nonterm "a") (.op .group (.cat (.nonterm "b") (.nonterm "c")))) (.nonterm "d"))
    (.op .group (.alt (.nonterm "x") (.nonterm "y"))))) =
    .alt [.concat [.nonterm "a", .nonterm "b", .nonterm "c", .nonterm "d"], .nonterm "x", .nonterm "y", .empty] := rfl

end Emerge.Props.C11
