import Emerge.Proofs.Follow
import Emerge.Proofs.Follow2
import Emerge.Proofs.Subset
import Emerge.Proofs.FollowDenote
import Emerge.Proofs.Spined
import Emerge.Proofs.SubsetFuel
import Emerge.Inst.Regex
/-
  C10 — the direct (followpos) pattern-to-DFA construction.

  Proved here, for every syntax tree: `nullable` is exactly "the empty string is in the language"
  — including n-ary concatenations whose operands can all match the empty string, the case the
  unrepaired code got wrong (`fixed: property=C10` in known_findings.json) — and the tree the second
  mapper set builds for a quantified expression (`quantNode`: copies, options, star) has the language
  of the quantifier's documented meaning.
  The followpos sets are correct (Glushkov / McNaughton-Yamada, for the n-ary trees of the code):
  * `C10_paths`: every word of the language of a tree has a marking (each character paired with the
    position of the leaf that matches it) whose first position is in `firstPos`, whose last position
    is in `lastPos`, and in which every position is followed by a position of the follow set
    `computeFollows` computed for it - every sentence is a run of the position automaton (positions
    need not be distinct for this half);
  * `C10_local`: in a tree whose leaves carry distinct positions, every run - leaves only, start in
    `firstPos`, steps along the follow sets computed from the empty map, end in `lastPos` - is a
    marked word of the tree (the "local language" property: alternations keep a run inside one
    operand, concatenations are crossed left to right, a star is cut into iterations);
  * `C10_position_automaton`: hence the automaton accepts exactly the language; `C10_build_lin`: the
    tree `ast.Parse` hands over (end marker appended, `indexChars`) has distinct positions.
  The worklist loop of `ToDFA` is the subset construction over these sets and terminates (`C10_explore`,
  `C10_todfa_total`), so the automaton accepts exactly the language of the tree (`C10_dfa`), which is the
  documented language of the pattern for every tree the mappers build (`C10_dfa_documented`,
  `C10_parse_spined`, `C10_direct_route_total`). NOT proved: the dependency's `Minimize`; it is decided per
  pattern by comparing the automaton with the proved derivative oracle (checks/c10.py).
-/
namespace Emerge.Props.C10
open Emerge Emerge.Regex Emerge.Regex.Follow

/-- **nullable is correct**: `nullable(n)` holds iff the sub-expression can match the empty string. -/
theorem C10_nullable (n : Node) : n.nullable = true ↔ Node.lang n [] := nullable_iff_lang n

/-- A concatenation is nullable iff all its operands are (the repaired defect, stated outright). -/
theorem C10_concat_nullable (xs : List Node) : (Node.concat xs).nullable = xs.all Node.nullable := concat_nullable_all xs

/-- **Quantified sub-expressions** have the documented language of the quantifier applied to the operand's language. -/
theorem C10_quantify (n : Node) (q : Quant) :
    Node.lang (quantNode n q) ≃
      (match q with
       | .opt => Lang.union Lang.eps (Node.lang n)
       | .star => Lang.star (Node.lang n)
       | .plus => Lang.cat (Node.lang n) (Lang.star (Node.lang n))
       | .rep lo none => Lang.cat (Lang.pow (Node.lang n) lo) (Lang.star (Node.lang n))
       | .rep lo (some u) => Lang.cat (Lang.pow (Node.lang n) lo) (Lang.upto (Node.lang n) (u - lo))) := quantify_lang n q

/-- `firstPos` contains the first position of every non-empty marked word -/
theorem C10_first_sound (n : Node) (a : Nat × Rune) (m : MWord) (h : Node.mlang n (a :: m)) : a.1 ∈ n.firstPos :=
  first_sound n a m h

/-- `lastPos` contains the last position of every non-empty marked word -/
theorem C10_last_sound (n : Node) (m : MWord) (a : Nat × Rune) (h : Node.mlang n (m ++ [a])) : a.1 ∈ n.lastPos :=
  last_sound n m a h

/-- `computeFollows` puts `q` into the follow set of `p` whenever `q` directly follows `p` in a marked word -/
theorem C10_follow_sound (n : Node) (m : MWord) (h : Node.mlang n m) (p q : Nat) (ha : Adj m p q) (M : FollowMap) :
    q ∈ (computeFollows M n).get p := follow_sound n m h p q ha M

/-- **Every sentence is a path through the position automaton.** For every word of the language of a tree there is a
    marking of it that starts in `firstPos`, ends in `lastPos`, steps only along the computed follow sets, and is empty
    only if the tree is nullable: the automaton the direct route builds from these sets cannot reject a sentence. -/
theorem C10_paths (n : Node) (w : List Rune) (h : Node.lang n w) :
    ∃ m : MWord, m.map (·.2) = w ∧
      (∀ a rest, m = a :: rest → a.1 ∈ n.firstPos) ∧
      (∀ p q, Adj m p q → ∀ M, q ∈ (computeFollows M n).get p) ∧
      (∀ init a, m = init ++ [a] → a.1 ∈ n.lastPos) ∧
      (m = [] → n.nullable = true) := by
  obtain ⟨m, hm, e⟩ := mlang_lift n w h
  refine ⟨m, e, ?_, ?_, ?_, ?_⟩
  · intro a rest hr; exact first_sound n a rest (hr ▸ hm)
  · intro p q ha M; exact follow_sound n m hm p q ha M
  · intro init a hr; exact last_sound n init a (hr ▸ hm)
  · intro hr; exact (mlang_nil_iff n).mp (hr ▸ hm)

/-- **Every run is a sentence** (distinct positions): a non-empty sequence of leaves that starts in `firstPos`, steps along
    the follow relation and ends in `lastPos` is a marked word of the tree. -/
theorem C10_local (n : Node) (hl : Lin n) (m : MWord)
    (hp : IsPath n.firstPos n.lastPos (Fol n) (leaves n) m) : Node.mlang n m := local_lang n hl m hp

/-- the follow sets computed from the empty map are exactly the follow relation -/
theorem C10_follow_exact (n : Node) (p q : Nat) (h : q ∈ (computeFollows [] n).get p) : Fol n p q :=
  computed_follow_is_Fol n p q h

/-- **The position automaton accepts exactly the language** of a tree with distinct positions: a string is in the language
    iff it is empty and the tree nullable, or it is spelled by an accepting run (leaves only; first, follow and last sets
    as the code computes them). -/
theorem C10_position_automaton (n : Node) (hl : Lin n) (w : List Rune) :
    Node.lang n w ↔ (w = [] ∧ n.nullable = true) ∨ ∃ m, Accepting n m ∧ m.map (·.2) = w :=
  position_automaton_lang n hl w

/-- the tree `ast.Parse` hands to `ToDFA` (pattern, end marker appended, `indexChars`) has distinct positions -/
theorem C10_build_lin (T : ClassTable) (p : Pat) : Lin (build T p).root := build_lin T p

/-- the tree `ast.Parse` hands to `ToDFA` is the pattern's tree, numbered from 1, followed by the end marker at the last
    position, which no leaf of the pattern carries -/
theorem C10_build_marked (T : ClassTable) (p : Pat) : Marked (build T p) (index 1 (ofPat T p)).1 endMarker := build_marked T p

/-- **The worklist loop of `ToDFA` is the subset construction**: whatever it returns is closed - state 0 is
    `firstPos(root)`, every state has on every input symbol a transition to the state that is `U` (the followers of its
    positions carrying that symbol) as a set, and there are no other transitions. -/
theorem C10_explore (t : Tree) (symbols : List Rune) (fuel : Nat) (r : List Poses × Follow.Trans)
    (h : explore t symbols fuel 0 [t.root.firstPos] [] = some r) :
    r.1[0]? = some t.root.firstPos ∧ (∀ k, k < r.1.length → ∀ c ∈ symbols, Covered t r.1 r.2 k c) ∧ (∀ e ∈ r.2, e.2.1 ∈ symbols) :=
  explore_spec t symbols fuel 0 [t.root.firstPos] [] (Outer.init t symbols) r h

/-- **The automaton of the direct route accepts exactly the language of the pattern's tree** (before the dependency's
    `Minimize`): for every pattern, whatever automaton the model of `ToDFA` returns accepts a string - any string, also one
    with characters the pattern does not mention or with the character used as end marker - iff the string is in the
    language of the tree the mappers built for the pattern. -/
theorem C10_dfa (T : ClassTable) (p : Pat) (d : DFA) (hd : toDFA? (build T p) = some d) (w : List Rune) :
    d.accepts (build T p) w = true ↔ Node.lang (ofPat T p) w := by
  rw [dfa_language (build_marked T p) d hd w, lang_index]

/-- **… which is the documented language of the pattern**: for every pattern the mappers can build (sub-expressions are
    item lists) and every string without NUL, the automaton of the direct route - over the class table regenerated from
    the source - accepts the string iff the pattern matches it under the documented meaning of every construct. -/
theorem C10_dfa_documented (p : Pat) (hs : spined p = true) (d : DFA)
    (hd : toDFA? (build Gen.Regex.runeClasses p) = some d) (w : List Rune) (hw : NoNul w) :
    d.accepts (build Gen.Regex.runeClasses p) w = true ↔ p.denote Gen.Regex.runeClasses w := by
  rw [C10_dfa Gen.Regex.runeClasses p d hd w]
  have := (ofPat_lang Gen.Regex.runeClasses Inst.Regex.ascii_ok p).1 hs w
  simp only [nn] at this
  constructor
  · intro h; exact this.mp ⟨h, hw⟩
  · intro h; exact (this.mpr h).1

/-- whatever the mapper model returns for a pattern text is made of item lists (every grammar, every class table) -/
theorem C10_parse_spined (G : Rules) (top : String) (T : ClassTable) (s : List Rune) (p : Pat)
    (h : parsePat G top T s = .ok p) : spined p = true := parsePat_spined G top T s p h

/-- **End to end for the direct route**: for every pattern text the (regenerated) pattern grammar accepts, the automaton
    the model of `ast.Parse` + `ToDFA` builds accepts a string without NUL iff the pattern matches it under the documented
    meaning. (The only run-time hypothesis left is that the loop finished within its fuel, `2^positions + 1` states.) -/
theorem C10_direct_route (s : List Rune) (p : Pat)
    (hp : parsePat Gen.Regex.rules Gen.Regex.top Gen.Regex.runeClasses s = .ok p) (d : DFA)
    (hd : toDFA? (build Gen.Regex.runeClasses p) = some d) (w : List Rune) (hw : NoNul w) :
    d.accepts (build Gen.Regex.runeClasses p) w = true ↔ p.denote Gen.Regex.runeClasses w :=
  C10_dfa_documented p (parsePat_spined _ _ _ s p hp) d hd w hw

/-- **The loop of `ToDFA` terminates**: its states are pairwise different sets of the tree's positions, at most `2^n` of
    them - the model always returns an automaton (its fuel, `2^n + 1`, is never exhausted). -/
theorem C10_todfa_total (T : ClassTable) (p : Pat) : ∃ d, toDFA? (build T p) = some d := toDFA_some (build_marked T p)

/-- **The direct route, without hypotheses**: for every pattern text the pattern grammar accepts there is an automaton
    - the one the model of `ast.Parse` + `ToDFA` returns - and it accepts a string without NUL iff the pattern matches it
    under the documented meaning. -/
theorem C10_direct_route_total (s : List Rune) (p : Pat)
    (hp : parsePat Gen.Regex.rules Gen.Regex.top Gen.Regex.runeClasses s = .ok p) :
    ∃ d, toDFA? (build Gen.Regex.runeClasses p) = some d ∧
      ∀ w, NoNul w → (d.accepts (build Gen.Regex.runeClasses p) w = true ↔ p.denote Gen.Regex.runeClasses w) := by
  obtain ⟨d, hd⟩ := C10_todfa_total Gen.Regex.runeClasses p
  exact ⟨d, hd, fun w hw => C10_direct_route s p hp d hd w hw⟩

/-- Non-vacuity: `ab*` and `\xEEEE|a` (a pattern that itself contains the end-marker character): the loop terminates,
    and the automaton accepts and rejects as the theorem says. -/
def patAB : Pat := .scons (.char 97) (.scons (.quant (.char 98) .star false) .snil)
def patMk : Pat := .alt (.scons (.char endMarker) .snil) (.scons (.char 97) .snil)
example : (toDFA? (build [] patAB)).isSome = true := by decide +kernel
example : ((toDFA? (build [] patAB)).map fun d => (d.accepts (build [] patAB) [97, 98, 98], d.accepts (build [] patAB) [98], d.accepts (build [] patAB) [])) =
    some (true, false, false) := by decide +kernel
example : ((toDFA? (build [] patMk)).map fun d => (d.accepts (build [] patMk) [endMarker], d.accepts (build [] patMk) [97], d.accepts (build [] patMk) [])) =
    some (true, true, false) := by decide +kernel

/-- Non-vacuity / regression: the trees of `a?`, `(a*)b` … : a concatenation of nullable operands is nullable,
    `a{0}` (an empty concatenation) is nullable, `ab?` is not. -/
example : (Node.concat [.alt [.empty, .char 97 1], .star (.char 98 2)]).nullable = true := by decide
example : (quantNode (.char 97 0) (.rep 0 (some 0))).nullable = true := by decide
example : (Node.concat [.char 97 1, .alt [.empty, .char 98 2]]).nullable = false := by decide
/-- `(a|ab)#`: `a#` is a path 1 → 4 and `ab#` a path 2 → 3 → 4 through the follow map -/
example : (computeFollows [] (.concat [.alt [.char 97 1, .concat [.char 97 2, .char 98 3]], .char 35 4])).get 1 = [4] ∧
    (computeFollows [] (.concat [.alt [.char 97 1, .concat [.char 97 2, .char 98 3]], .char 35 4])).get 2 = [3] := by decide

end Emerge.Props.C10
