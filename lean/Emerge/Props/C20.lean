import Emerge.Inst.Tables
/-
  C20 — syntax errors are reported at the first offending token (driver level).
  Lexical errors: `Emerge.Props.C05.C05_error_prefix` (the error is the first run ending in a
  non-accepting state; everything before it was tokenised).
-/
namespace Emerge.Props.C20
open Emerge Emerge.LR Emerge.Inst.Tables

/-- A syntax error is reported for token index `i ≤ |w|` (`|w|` = the end marker: the input ended
    too early); all tokens before `i` — and only those — were shifted (token callbacks `0..i-1`). -/
theorem C20_error_token {w : List Nat} {fuel : Nat} {ev : List Event} {i : Nat} {st : Option Nat}
    (h : parse raw.tables w none none fuel = (ev, .syntaxError i st)) :
    i ≤ w.length ∧ toksOf ev.reverse = (List.range i).reverse :=
  syntaxError_token raw_wf h

/-- Nothing after the offending token influences the outcome: callbacks, error index and state are
    the same for every continuation of the input. -/
theorem C20_suffix_irrelevant (u : List Nat) (a : Nat) (v v' : List Nat) (fuel : Nat)
    (ev : List Event) (st : Option Nat)
    (h : parse raw.tables (u ++ a :: v) none none fuel = (ev, .syntaxError u.length st)) :
    parse raw.tables (u ++ a :: v') none none fuel = (ev, .syntaxError u.length st) :=
  parse_suffix_irrelevant raw.tables u a v v' none fuel ev st h

/-- **The offending token is the first one that cannot go on**: once the tokens `u` followed by `a` have been rejected
    at `a`, no continuation whatever makes the parser accept an input that begins with `u`, `a` (the reported token is
    not blamed for something a later token could have put right). The other half of minimality - that `u` alone can
    still be completed to a sentence - is the viable-prefix property of the LALR(1) automaton; it is explored against
    the recursive-descent recogniser, not proved. -/
theorem C20_no_continuation (u : List Nat) (a : Nat) (v : List Nat) (fuel : Nat) (ev : List Event) (st : Option Nat)
    (h : parse raw.tables (u ++ a :: v) none none fuel = (ev, .syntaxError u.length st)) (v' : List Nat) :
    (parse raw.tables (u ++ a :: v') none none fuel).2 ≠ .accept := by
  rw [C20_suffix_irrelevant u a v v' fuel ev st h]
  intro hc; cases hc

/-- Non-vacuity: `grammar x y` (kinds 13 17 17) is rejected at the end marker, index 3 — the input
    merely ends too early and no earlier token is blamed; `grammar x y = "s"` fails at its end too. -/
example : (parse raw.tables [13, 17, 17] none none 200).2 = .syntaxError 3 (some 44) := by decide +kernel
example : (parse raw.tables [13, 17, 17, 0, 19] none none 200).2 = .syntaxError 5 (some 50) := by decide +kernel

end Emerge.Props.C20
