import Emerge.Proofs.Cli
import Emerge.Props.C09
/-
  C14 — no input crashes or hangs emerge; failures are errors and clean non-zero exits.

  The Lean models of the entry points are total functions in which every Go operation that can
  panic is an explicit outcome; the check (checks/c14.py) compares their outcome class with the
  implementation's on arbitrary inputs and looks for panics, hangs, (nil, nil) results and stack
  traces directly.  Proved here: what the command-line model does on failure, and that the pattern
  entry points reject the empty pattern (a former panic).  Termination of the real LR driver and
  of the dependency's automata constructions is NOT proved (time-outs stand in for it).
-/
namespace Emerge.Props.C14
open Emerge Emerge.Cli

/-- Every run that does not announce success prints a message saying why (and only such a run prints one: `Ends.message`). -/
theorem C14_cli_failure_has_message (fl : Flags) (fs : FS) (input : InputState) (sr : SpecResult) (idValid : String → Bool)
    (render : String → String) (faults : List Fault) :
    (run fl fs input sr idValid render faults).success = false → (run fl fs input sr idValid render faults).message = true := by
  intro h
  rw [run_ends.message, h]
  rfl

/-- An unparsable command line (unknown flag, missing value) ends with exit status 2 and changes nothing. -/
theorem C14_cli_usage_error (fl : Flags) (fs : FS) (input : InputState) (sr : SpecResult) (idValid : String → Bool)
    (render : String → String) (faults : List Fault) (h : fl.parseError = true) :
    (run fl fs input sr idValid render faults).exit = 2 ∧ (run fl fs input sr idValid render faults).fs = fs := by
  simp [run, h]

/-- The exit status is always 0, 1 or 2 (never Go's crash status). -/
theorem C14_cli_exit_codes (fl : Flags) (fs : FS) (input : InputState) (sr : SpecResult) (idValid : String → Bool)
    (render : String → String) (faults : List Fault) :
    (run fl fs input sr idValid render faults).exit ≤ 2 :=
  run_ends.exit_le

/-- The empty pattern is an error, not a crash (model of the repaired entry points). -/
theorem C14_empty_pattern : Props.C09.accept [] = .invalid := rfl

end Emerge.Props.C14
