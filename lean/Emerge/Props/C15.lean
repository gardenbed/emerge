import Emerge.Gen.Unordered
import Emerge.Proofs.Dominant
/-
  C15 — same specification and options give byte-identical output and diagnostics.

  Tie to the source: every loop over a Go map or over a collection of the dependency in the
  packages the property is anchored in is re-extracted on every run (`Gen.Unordered.loops`) and must
  be exactly the list below, each with the reason why its iteration order cannot reach the output.
  A new such loop (or a removed sort) changes the generated list or the comparison run and breaks the tie.

  Proved: the principle every "collected, then sorted" site relies on — sorting erases the order in
  which the elements were collected (`C15_sort_perm`: for every permutation of the input the sorted
  result is the same list), and the fold that builds the per-terminal accepting-state lists from the
  sorted states is therefore independent of the map's iteration order (`C15_finals_order_independent`).
  The byte-identity of whole runs is observed (repeated in-process and fresh-process runs, each with
  its own map seed), not proved.
-/
namespace Emerge.Props.C15
open Emerge

/-- the classification of every unordered loop: (file, function, expression, kind) and why it is harmless -/
def classified : List ((String × String × String × String) × String) := [
  (("internal/ebnf/parser/spec/spec.go", "DFA", "stateMap", "map"), "a slice indexed by definition (ordered)"),
  (("internal/ebnf/parser/spec/spec.go", "DFA", "stateDefs", "map"), "keys are collected and sorted (sort.Quick by state number) before use"),
  (("internal/ebnf/parser/spec/spec.go", "dominantAction", "conflict.Actions.All()", "collection"), "the action that beats every other one of the entry is chosen; at most one does, so the order of collection is immaterial (C15_dominant_order_independent)"),
  (("internal/ebnf/parser/spec/symbol_table.go", "orderedTerminals", "t.terminals.table.All()", "collection"), "collected, then sorted by grammar.CmpTerminal"),
  (("internal/ebnf/parser/spec/symbol_table.go", "Definitions", "t.terminals.table.All()", "collection"), "collected, then sorted by a total order (kind, length, name)"),
  (("internal/ebnf/parser/spec/symbol_table.go", "Terminals", "t.terminals.table.All()", "collection"), "added to a set"),
  (("internal/ebnf/parser/spec/symbol_table.go", "NonTerminals", "t.nonTerminals.table.All()", "collection"), "added to a set"),
  (("internal/ebnf/parser/spec/symbol_table.go", "Productions", "t.productions.table.All()", "collection"), "added to a set"),
  (("internal/generate/golang/golang.go", "generateLexer", "groups.All()", "collection"), "red-black tree keyed by state: in-order iteration"),
  (("internal/generate/golang/golang.go", "generateLexer", "group.All()", "collection"), "red-black tree keyed by state: in-order iteration"),
  (("internal/generate/golang/golang.go", "groupDFAStates", "dfa.Transitions()", "collection"), "red-black trees keyed by state and symbol: in-order iteration"),
  (("internal/regex/parser/ast/ast.go", "Parse", "a.follows", "map"), "every follow list is sorted in place on its own: the order of the visits is immaterial"),
  (("internal/regex/parser/ast/ast.go", "ToDFA", "a.charToPos", "map"), "only the numbering of the states of the direct-route automaton depends on it; that automaton is minimised afterwards and is not used by the command-line tool (its language is C10's subject)")]

/-- **Tie**: the unordered loops in the source are exactly the classified ones. -/
theorem C15_loops_classified : Gen.Unordered.loops = classified.map (·.1) := rfl

/-! ### sorting erases the collection order -/

def ins (x : Nat) : List Nat → List Nat
  | [] => [x]
  | y :: l => if x ≤ y then x :: y :: l else y :: ins x l

def sort (l : List Nat) : List Nat := l.foldr ins []

/-- Two insertions commute, whatever the list: each element goes in front of the first one that is not below it. -/
theorem ins_comm (x y : Nat) (l : List Nat) : ins x (ins y l) = ins y (ins x l) := by
  induction l with
  | nil => by_cases h1 : x ≤ y <;> by_cases h2 : y ≤ x <;> simp [ins, h1, h2] <;> omega
  | cons z l ih =>
    by_cases hy : y ≤ z <;> by_cases hx : x ≤ z
    · by_cases h1 : x ≤ y <;> by_cases h2 : y ≤ x <;> simp [ins, hy, hx, h1, h2] <;> omega
    · simp [ins, hy, hx, show ¬ x ≤ y by omega]
    · simp [ins, hy, hx, show ¬ y ≤ x by omega]
    · simp [ins, hy, hx, ih]

/-- **Sorting erases the order of collection**: any two lists that are permutations of each other
    (the same elements collected in two iteration orders) sort to the same list. -/
theorem C15_sort_perm {l₁ l₂ : List Nat} (h : l₁.Perm l₂) : sort l₁ = sort l₂ :=
  h.foldr_eq' (fun x _ y _ l => ins_comm y x l) []

/-- `Spec.DFA`: the accepting states are collected from a Go map and sorted; each is then appended
    to the list of the terminal that wins there. Whatever order the map was iterated in, the
    per-terminal lists come out the same. -/
def assign (owner : Nat → Option String) (states : List Nat) : List (String × List Nat) :=
  (sort states).foldl (fun acc s =>
    match owner s with
    | none => acc
    | some t => if acc.any (·.1 == t) then acc.map (fun e => if e.1 == t then (e.1, e.2 ++ [s]) else e) else acc ++ [(t, [s])]) []

theorem C15_finals_order_independent (owner : Nat → Option String) {keys₁ keys₂ : List Nat} (h : keys₁.Perm keys₂) :
    assign owner keys₁ = assign owner keys₂ := by
  simp only [assign, C15_sort_perm h]

/-! ### the action that dominates a table entry does not depend on the order of collection -/

/-- **Order independence of conflict resolution** (the repair c31491e): if "takes precedence over" is asymmetric —
    as the precedence comparison is — then the entry's actions collected in any two orders yield the same choice
    (or, in both orders, none). -/
theorem C15_dominant_order_independent {α} [DecidableEq α] (beats : α → α → Bool)
    (hasym : ∀ x y, beats x y = true → beats y x = true → False)
    {l₁ l₂ : List α} (h : l₁.Perm l₂) : Dominant.dominant beats l₁ = Dominant.dominant beats l₂ :=
  Dominant.dominant_perm beats hasym h

/-- Non-vacuity -/
example : Dominant.dominant (fun x y : Nat => decide (x = 0 ∧ y ≠ 0)) [1, 2, 0] = some 0
    ∧ Dominant.dominant (fun x y : Nat => decide (x = 0 ∧ y ≠ 0)) [0, 1, 2] = some 0
    ∧ Dominant.dominant (fun x y : Nat => decide (x = 0 ∧ y ≠ 0)) [1, 2] = none := by decide
example : sort [5, 1, 4, 1] = [1, 1, 4, 5] := by decide
example : assign (fun s => if s % 2 = 0 then some "EVEN" else some "ODD") [3, 2, 1, 4] = [("ODD", [1, 3]), ("EVEN", [2, 4])] := by decide

end Emerge.Props.C15
