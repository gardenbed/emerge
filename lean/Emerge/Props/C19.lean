import Emerge.Emitted
import Emerge.Proofs.Scanner
import Emerge.Proofs.Reader
import Emerge.Proofs.ReaderNext
import Emerge.Proofs.Utf8
import Emerge.Inst.ReaderTmpl
import Emerge.Inst.LexerTmpl
/-
  C19 — the emitted lexer tokenises input exactly as the token automaton prescribes.

  `Emitted.segments` is the model of the emitted `NextToken` loop (tied to the compiled artefact by
  checks/c19.py).  Proved here for EVERY automaton (any transition function, any accepting table —
  including automata that re-enter their start state): the segmentation it computes is the
  declarative one (`Tokenised`): from each token start the longest run the automaton allows, a
  lexical error naming the run if the state reached is not accepting, spaces/tabs/line terminators
  that no token starts with discarded, any other stray character a lexical error naming it, end of
  input after the last token; every lexeme is the exact text, every position that of its first
  character; nothing but discarded blanks is lost.
  The emitted two-half reader (input.go.tmpl; model `Emerge.Reader`, tied to the compiled template
  by the `reader` correspondence of checks/c19.py) is proved to be the plain byte stream for EVERY
  half size, source length and block alignment (`C19_reader`, `C19_reader_lexeme`): `next`,
  `Retract`, `Lexeme` and `Skip` return what a cursor over the whole source returns, as long as the
  calls stay within the reader's contract (a `Retract` gives back bytes of the pending lexeme, at most one
  half outstanding) - for EVERY source, zero bytes included: the end of the input is the index of the sentinel
  (`RState.stop`), not the first zero byte (the repair of a second defect this model exposed: the refinement
  needed the hypothesis "the source has no NUL", and the real lexer silently dropped everything after a zero byte). A lexeme may be longer than the buffer: its bytes
  are kept as they are read (the repair of a defect this model exposed: `Lexeme` used to read them
  back from the halves, and the refinement needed the hypothesis "lexeme plus look-ahead fit into one
  half" - the real lexer returned the tail of any token longer than 8 KiB). UTF-8: the bytes of any text of Unicode
  scalar values decode to that text (`C19_utf8`, `Utf8.decode` is the table-driven decoder of the
  emitted `Next`), a rune gives back 1 to 4 bytes, and a text without U+0000 has no NUL byte. The emitted `Next` (model `Reader.nextRune`: 1 to 4 calls of
  `next`, first-byte classes and second-byte ranges as the template's tables give them) returns, in
  every reachable state of the reader, the scalar value whose encoding lies at the cursor and moves
  the cursor behind it (`C19_next_rune`) - also when the bytes of the rune straddle a reload.
-/
namespace Emerge.Props.C19
open Emerge Emerge.Scanner Emerge.Emitted

/-- What the property prescribes, declaratively. -/
inductive Tokenised (S : Spec) : Pos → List Rune → List Seg → End → Prop where
  | eof (p : Pos) : Tokenised S p [] [] .eof
  | blank (p : Pos) (r : Rune) (rest : List Rune) (segs : List Seg) (e : End) :
      S.adv 0 r = none → isSpace r = true → Tokenised S (advPos p r) rest segs e →
      Tokenised S p (r :: rest) segs e
  | stray (p : Pos) (r : Rune) (rest : List Rune) :
      S.adv 0 r = none → isSpace r = false → Tokenised S p (r :: rest) [] (.lexErr p [r])
  | seg (p : Pos) (rs c rest : List Rune) (q : Nat) (segs : List Seg) (e : End) :
      LongestRun S.adv 0 rs c q → rs = c ++ rest → c ≠ [] → (S.eval q).isSome = true →
      Tokenised S (advPosList p c) rest segs e →
      Tokenised S p rs (⟨q, c, p⟩ :: segs) e
  | err (p : Pos) (rs c : List Rune) (q : Nat) :
      LongestRun S.adv 0 rs c q → c ≠ [] → S.eval q = none →
      Tokenised S p rs [] (.lexErr p c)

/-- **The emitted lexer is maximal munch over the automaton** — for every automaton, every input,
    every starting position. -/
theorem C19_lexer (S : Spec) : ∀ (fuel : Nat) (p : Pos) (rs : List Rune), rs.length < fuel →
    Tokenised S p rs (Emitted.segments S fuel p rs).1 (Emitted.segments S fuel p rs).2 := by
  intro fuel
  induction fuel with
  | zero => intro p rs h; omega
  | succ n ih =>
    intro p rs hlen
    cases rs with
    | nil => simp [Emitted.segments]; exact .eof p
    | cons r rest =>
      simp only [Emitted.segments]
      cases hadv : S.adv 0 r with
      | none =>
        simp only
        cases hsp : isSpace r with
        | true =>
          simp only [if_true]
          exact .blank p r rest _ _ hadv hsp (ih (advPos p r) rest (by simp at hlen; omega))
        | false =>
          simp only [Bool.false_eq_true, if_false]
          exact .stray p r rest hadv hsp
      | some s' =>
        simp only
        have hlong := munch_longest S.adv 0 (r :: rest)
        have hne : (munch S.adv 0 (r :: rest)).2.1 ≠ [] := by rw [munch_cons_some rest hadv]; simp
        cases hev : S.eval (munch S.adv 0 (r :: rest)).1 with
        | none => exact .err p _ _ _ hlong hne hev
        | some v =>
          have hrest := munch_rest_lt hne
          simp only [List.length_cons] at hlen hrest
          exact .seg p _ _ _ _ _ _ hlong (munch_append S.adv 0 (r :: rest)).symm hne (by rw [hev]; rfl)
            (ih _ _ (by omega))

theorem C19_scan (S : Spec) (rs : List Rune) :
    Tokenised S Pos.start rs (Emitted.segments S (rs.length + 1) Pos.start rs).1 (Emitted.segments S (rs.length + 1) Pos.start rs).2 :=
  C19_lexer S _ _ _ (Nat.lt_succ_self _)

/-- the text `t` stands in `rs`, at the position `q` reached from `p` by reading what is before it -/
def Occurs (p : Pos) (rs : List Rune) (q : Pos) (t : List Rune) : Prop :=
  ∃ pre post, rs = pre ++ t ++ post ∧ q = advPosList p pre

theorem Occurs.here (p : Pos) (t post : List Rune) : Occurs p (t ++ post) p t := ⟨[], post, rfl, rfl⟩

theorem Occurs.after {p rest q t} (u : List Rune) (h : Occurs (advPosList p u) rest q t) : Occurs p (u ++ rest) q t := by
  obtain ⟨pre, post, h1, h2⟩ := h
  exact ⟨u ++ pre, post, by rw [h1]; simp, by rw [h2, advPosList_append]⟩

/-- **Exact lexemes at exact positions**: every segment is a piece of the input, and its position
    is the position reached by reading everything before it (offset, line and column of its first
    character). -/
theorem C19_positions {S : Spec} {p : Pos} {rs : List Rune} {segs : List Seg} {e : End}
    (h : Tokenised S p rs segs e) :
    ∀ g ∈ segs, ∃ pre post, rs = pre ++ g.text ++ post ∧ g.pos = advPosList p pre := by
  induction h with
  | eof p => intro g hg; cases hg
  | blank p r rest segs e _ _ _ ih => exact fun g hg => Occurs.after [r] (ih g hg)
  | stray p r rest _ _ => intro g hg; cases hg
  | seg p rs c rest q segs e _ hrs _ _ _ ih =>
    subst hrs
    intro g hg
    rcases List.mem_cons.mp hg with rfl | hg
    · exact Occurs.here p c rest
    · exact Occurs.after c (ih g hg)
  | err p rs c q _ _ _ => intro g hg; cases hg

/-- **Nothing but discarded blanks is lost**: when the end of the input is reached, the input is
    the segments' texts in order with only spaces, tabs and line terminators in between. -/
theorem C19_partition {S : Spec} {p : Pos} {rs : List Rune} {segs : List Seg} {e : End}
    (h : Tokenised S p rs segs e) (he : e = .eof) :
    rs.filter (fun r => !isSpace r) = (segs.flatMap (·.text)).filter (fun r => !isSpace r) := by
  induction h with
  | eof p => rfl
  | blank p r rest segs e _ hsp _ ih => simp [hsp, ih he]
  | stray p r rest _ _ => cases he
  | seg p rs c rest q segs e _ hrs _ _ _ ih => rw [hrs]; simp [ih he]
  | err p rs c q _ _ _ => cases he

/-- The end of input is reported only after the last token: if the segmentation ends with `eof`
    every character of the input was consumed by a segment or discarded as a blank (previous
    theorem), and an error is reported at the first position where no token and no blank fits. -/
theorem C19_error_position {S : Spec} {p : Pos} {rs : List Rune} {segs : List Seg} {q : Pos} {t : List Rune}
    (h : Tokenised S p rs segs (.lexErr q t)) :
    ∃ pre post, rs = pre ++ t ++ post ∧ q = advPosList p pre ∧ t ≠ [] := by
  suffices h : Occurs p rs q t ∧ t ≠ [] by
    obtain ⟨⟨pre, post, h1, h2⟩, h3⟩ := h
    exact ⟨pre, post, h1, h2, h3⟩
  generalize he : End.lexErr q t = e at h
  induction h with
  | eof p => cases he
  | blank p r rest segs e _ _ _ ih => exact ⟨(ih he).1.after [r], (ih he).2⟩
  | stray p r rest _ _ => cases he; exact ⟨Occurs.here _ [r] rest, List.cons_ne_nil _ _⟩
  | seg p rs c rest q' segs e _ hrs _ _ _ ih => subst hrs; exact ⟨(ih he).1.after c, (ih he).2⟩
  | err p rs c q' hl hne _ =>
    cases he
    obtain ⟨post, rfl⟩ := hl.1
    exact ⟨Occurs.here _ _ post, hne⟩

/-- Non-vacuity: identifiers, a keyword winning over them, unmatched blanks discarded, last token without newline. -/
def demo : Spec := specOf [(0, 97, 122, 1), (1, 97, 122, 1), (0, 48, 57, 2), (2, 48, 57, 2)] [(1, "ID"), (2, "NUM")]
example : (Emitted.scan demo [97, 98, 32, 10, 49, 50, 9, 120]).1.map (fun t => (t.kind, t.lexeme, t.pos.off, t.pos.line, t.pos.col)) =
    [("ID", [97, 98], 0, 1, 1), ("NUM", [49, 50], 4, 2, 1), ("ID", [120], 7, 2, 4)] := by decide
example : (Emitted.scan demo [97, 63]).2 = .lexErr ⟨1, 1, 2⟩ [63] := by decide

/-! ### the reader under the emitted lexer -/

open Emerge.Reader in
/-- **The two-half reader is the plain stream.** For every source (any bytes, zero bytes included), every half size `n ≥ 1`
    (the emitted constant is 4096; the check also compiles it with 4 and 8) and every sequence of `next` /
    `Retract(size)` / `Lexeme` / `Skip` calls within the contract, the outputs of the reader (bytes, end of input,
    lexemes of any length) are those of a cursor over the whole source: independent of the input length, of where
    the buffer halves fall and of how often a half has been reloaded. -/
theorem C19_reader {src : Nat → Nat} {len n : Nat} (hn : 0 < n) (buf0 : Nat → Nat)
    (ops : List Reader.Op) (outs : List Out) (h : aRun src len n ⟨0, 0, 0⟩ ops = some outs) :
    cRun src len n (init src len n buf0) ops = outs :=
  reader_is_stream hn buf0 ops outs h

open Emerge.Reader in
/-- `Lexeme` in any reachable state returns the bytes between the start of the pending lexeme and the cursor —
    however long the lexeme is (the bytes are kept as they are read, not read back from the buffer halves). -/
theorem C19_reader_lexeme {src : Nat → Nat} {len n : Nat} {s : RState} {a : AState} {g : Ghost}
    (h : Inv2 src len n s a g) : (lexeme s).1 = (List.range (a.k - a.kb)).map (fun i => src (a.kb + i)) :=
  h.pending

open Emerge.Reader in
/-- Non-vacuity: half size 4, an 11-byte source, a run that crosses three half boundaries, gives bytes back across a
    boundary and takes lexemes; it is within the contract, and the reader's outputs are the stream's. -/
example :
    let src : Nat → Nat := fun i => [97, 98, 99, 100, 101, 102, 103, 104, 105, 106, 107].getD i 0
    let ops : List Reader.Op := [.next, .next, .next, .retract 2, .next, .lexeme, .next, .next, .next, .next, .skip,
      .next, .next, .next, .retract 3, .next, .next, .next, .lexeme, .next, .next, .next, .next]
    aRun src 11 4 ⟨0, 0, 0⟩ ops = some (cRun src 11 4 (init src 11 4 (fun _ => 0)) ops) ∧
    (cRun src 11 4 (init src 11 4 (fun _ => 0)) ops).getLast? = some .eof := by decide

/-- **Text and bytes**: for every text of Unicode scalar values, tokenising the decoded bytes of its UTF-8 encoding
    is tokenising the text (decoding ends at end of input, never in an error). -/
theorem C19_utf8 (S : Spec) (rs : List Rune) (h : ∀ r ∈ rs, Utf8.Scalar r) (fuel : Nat) (hf : rs.length ≤ fuel) :
    Emitted.scan S (Utf8.decode fuel (Utf8.encode rs)).1 = Emitted.scan S rs ∧
    (Utf8.decode fuel (Utf8.encode rs)).2 = .eof := by
  rw [Utf8.decode_encode rs h fuel hf]; exact ⟨rfl, rfl⟩

/-- the bytes of a text without U+0000 contain no NUL: the reader's sentinel cannot occur in the source -/
theorem C19_no_nul (rs : List Rune) (h : ∀ r ∈ rs, r ≠ 0) : ∀ b ∈ Utf8.encode rs, b ≠ 0 := by
  intro b hb
  simp only [Utf8.encode, List.mem_flatMap] at hb
  obtain ⟨r, hr, hb⟩ := hb
  exact Utf8.encodeRune_nul_free r (h r hr) b hb

example : Utf8.decode 3 (Utf8.encode [0x61, 0x20AC, 0x1F600]) = ([0x61, 0x20AC, 0x1F600], .eof) := by decide

/-! ### the tie of the reader model to the template (regenerated from input.go.tmpl on every run) -/

open Emerge.Reader in
/-- **`Next` returns the rune at the cursor**, in every reachable state of the reader (any half size, any alignment,
    re-reading given-back bytes or loading a half in the middle of the sequence): if the UTF-8 encoding of the scalar
    value `r` lies in the source at the cursor, the result is `r` with the length of that encoding (what `Retract` will
    give back), and the reader is at the cursor behind it. -/
theorem C19_next_rune {src : Nat → Nat} {len n : Nat} {s : RState} {a : AState} {g : Ghost}
    (h : Inv2 src len n s a g) (r : Nat) (hr : Utf8.Scalar r)
    (hfit : a.k + (Utf8.encodeRune r).length ≤ len)
    (hat : ∀ i, i < (Utf8.encodeRune r).length → src (a.k + i) = (Utf8.encodeRune r).getD i 0) :
    ∃ g', (nextRune src len n s).1 = .rune r (Utf8.encodeRune r).length ∧
      Inv2 src len n (nextRune src len n s).2
        ⟨a.k + (Utf8.encodeRune r).length, a.p - (Utf8.encodeRune r).length, a.kb⟩ g' :=
  nextRune_enc h (Utf8.encodeRune_enc hr) hfit hat

/-- The byte-level methods of the emitted reader read, statement for statement, as the ones `Emerge.Reader` models;
    its sentinel is NUL; its UTF-8 tables classify every first byte as `Utf8.decode` does. -/
theorem C19_reader_template :
    Gen.ReaderTmpl.body_load = Ref.ReaderTmpl.body_load ∧ Gen.ReaderTmpl.body_loadFirst = Ref.ReaderTmpl.body_loadFirst ∧
    Gen.ReaderTmpl.body_loadSecond = Ref.ReaderTmpl.body_loadSecond ∧ Gen.ReaderTmpl.body_next = Ref.ReaderTmpl.body_next ∧
    Gen.ReaderTmpl.body_Next = Ref.ReaderTmpl.body_Next ∧
    Gen.ReaderTmpl.body_Retract = Ref.ReaderTmpl.body_Retract ∧ Gen.ReaderTmpl.body_Lexeme = Ref.ReaderTmpl.body_Lexeme ∧
    Gen.ReaderTmpl.body_Skip = Ref.ReaderTmpl.body_Skip ∧ Gen.ReaderTmpl.eof = 0 ∧
    (∀ b0 : Nat, b0 < 256 → Inst.ReaderTmpl.tableClass b0 = Inst.ReaderTmpl.rangeClass b0) :=
  ⟨Inst.ReaderTmpl.body_load_eq, Inst.ReaderTmpl.body_loadFirst_eq, Inst.ReaderTmpl.body_loadSecond_eq,
   Inst.ReaderTmpl.body_next_eq, Inst.ReaderTmpl.body_Next_eq, Inst.ReaderTmpl.body_Retract_eq, Inst.ReaderTmpl.body_Lexeme_eq,
   Inst.ReaderTmpl.body_Skip_eq, Inst.ReaderTmpl.sentinel_is_nul, Inst.ReaderTmpl.class_eq⟩

/-- The emitted lexer's `New`, `NextToken`, `scanToken`, `evalToken`, its constants and the two table templates read, statement for
    statement, as the ones `Emerge.Emitted` (and `Emerge.Lexgen`, C08) model. -/
theorem C19_lexer_template :
    Gen.LexerTmpl.body_NextToken = Ref.LexerTmpl.body_NextToken ∧ Gen.LexerTmpl.body_scanToken = Ref.LexerTmpl.body_scanToken ∧
    Gen.LexerTmpl.body_evalToken = Ref.LexerTmpl.body_evalToken ∧
    Gen.LexerTmpl.body_New = Ref.LexerTmpl.body_New ∧ Gen.LexerTmpl.const_errorState = "-1" ∧
    Gen.LexerTmpl.const_bufferSize = "4096" ∧ Gen.LexerTmpl.tmpl_evalDFA = Ref.LexerTmpl.tmpl_evalDFA ∧
    Gen.LexerTmpl.tmpl_advanceDFA = Ref.LexerTmpl.tmpl_advanceDFA :=
  ⟨Inst.LexerTmpl.body_NextToken_eq, Inst.LexerTmpl.body_scanToken_eq, Inst.LexerTmpl.body_evalToken_eq, Inst.LexerTmpl.body_New_eq, rfl, rfl,
   Inst.LexerTmpl.tmpl_evalDFA_eq, Inst.LexerTmpl.tmpl_advanceDFA_eq⟩

end Emerge.Props.C19
