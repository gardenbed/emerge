import Emerge.LALR
import Emerge.Proofs.LR
import Emerge.Proofs.Dominant
/-
  C06 — the LALR(1) table for a user grammar parses exactly its language, per the directives.

  Proved (for every table and grammar): soundness of the shift-reduce driver for any table that
  passes the decidable check `WF` — whatever is accepted has a rightmost derivation, the reductions
  being that derivation in reverse (`C06_sound`); and the precedence rule used to resolve conflicts
  (`C06_resolution_*`): the earlier level wins; within a level LEFT prefers the reduction, RIGHT the
  shift, NONE neither; a cell is resolved only in favour of an action that beats every other one.
  Per accepted grammar the check evaluates `WF` on the implementation's own table (so the soundness
  theorem applies to it) and compares it, entry for entry up to state renaming, with the reference
  LALR(1) construction `LALR.build`; sentences up to a length bound and operator expressions are
  compared with a CYK recogniser and with precedence climbing.
  Not proved: completeness of the LALR(1) construction (every sentence is accepted) and the tree
  shape under precedence in general — both classical, both explored only.
-/
namespace Emerge.Props.C06
open Emerge Emerge.LR

/-- **Soundness for every well-formed table**: if the table of a grammar passes `WF`, every
    accepted terminal string has a rightmost derivation from the start symbol, and the production
    callbacks are that derivation in reverse. -/
theorem C06_sound {R : RawTables} (h : R.WF = true) {w : List Nat} (hw : ∀ a ∈ w, a ≠ R.eof)
    {fuel : Nat} {ev : List Event} (hacc : parse R.tables w none none fuel = (ev, .accept)) :
    RDerivation R.prods (prodsOf ev.reverse) [.nt R.start] (w.map Sym.t) :=
  (sound h hw hacc).1

variable (g : LALR.G)

/-- **Order first**: an action whose handle is in an earlier level beats one in a later level. -/
theorem C06_resolution_order (a : Nat) (x y : Nat × Nat) (i j : Nat) (ax ay : Assoc)
    (hx : LALR.levelOf g (LALR.handleOf g a x.1 x.2) = some (i, ax))
    (hy : LALR.levelOf g (LALR.handleOf g a y.1 y.2) = some (j, ay)) (hij : i < j) :
    LALR.beats g a x y = some true := by
  simp [LALR.beats, hx, hy, hij]

/-- **Then associativity**: in one level, LEFT prefers the reduction over the shift … -/
theorem C06_resolution_left (a : Nat) (p s : Nat) (i : Nat)
    (hx : LALR.levelOf g (LALR.handleOf g a 1 p) = some (i, .left))
    (hy : LALR.levelOf g (LALR.handleOf g a 0 s) = some (i, .left)) :
    LALR.beats g a (1, p) (0, s) = some true ∧ LALR.beats g a (0, s) (1, p) = some false := by
  simp [LALR.beats, hx, hy]

/-- … RIGHT prefers the shift over the reduction … -/
theorem C06_resolution_right (a : Nat) (p s : Nat) (i : Nat)
    (hx : LALR.levelOf g (LALR.handleOf g a 1 p) = some (i, .right))
    (hy : LALR.levelOf g (LALR.handleOf g a 0 s) = some (i, .right)) :
    LALR.beats g a (0, s) (1, p) = some true ∧ LALR.beats g a (1, p) (0, s) = some false := by
  simp [LALR.beats, hx, hy]

/-- … and NONE resolves nothing. -/
theorem C06_resolution_none (a : Nat) (x y : Nat × Nat) (i : Nat)
    (hx : LALR.levelOf g (LALR.handleOf g a x.1 x.2) = some (i, .none))
    (hy : LALR.levelOf g (LALR.handleOf g a y.1 y.2) = some (i, .none)) :
    LALR.beats g a x y = none := by
  simp [LALR.beats, hx, hy]

/-- An action without a level (its handle is listed nowhere) never wins and never loses by precedence. -/
theorem C06_resolution_unlisted (a : Nat) (x y : Nat × Nat)
    (hx : LALR.levelOf g (LALR.handleOf g a x.1 x.2) = none) :
    LALR.beats g a x y = none ∧ LALR.beats g a y x = none := by
  constructor
  · simp [LALR.beats, hx]
  · simp only [LALR.beats, hx]
    cases LALR.levelOf g (LALR.handleOf g a y.1 y.2) <;> rfl

theorem resolveCell_eq_dominant (a : Nat) (acts : List (Nat × Nat)) :
    LALR.resolveCell g a acts = Dominant.dominant (fun x y => LALR.beats g a x y == some true) acts := rfl

/-- **Never silently resolved**: a conflicting cell is resolved only in favour of an action of the
    cell that beats every other action of the cell. -/
theorem C06_resolution_sound (a : Nat) (acts : List (Nat × Nat)) (x : Nat × Nat)
    (h : LALR.resolveCell g a acts = some x) :
    x ∈ acts ∧ ∀ y ∈ acts, y = x ∨ LALR.beats g a x y = some true := by
  rw [resolveCell_eq_dominant] at h
  obtain ⟨hx, hd⟩ := Dominant.dominant_some h
  exact ⟨hx, fun y hy => (Bool.or_eq_true_iff.mp (hd y hy)).imp (fun h => (eq_of_beq h).symm) eq_of_beq⟩

/-- the associativity `levelOf` reports is the one of the level it reports -/
theorem levelOf_assoc (h : Handle) (i : Nat) (as : Assoc) (hl : LALR.levelOf g h = some (i, as)) :
    ∃ hs, g.levels[i]? = some (as, hs) := by
  obtain ⟨⟨⟨as', hs⟩, k⟩, hm, hf⟩ := List.exists_of_findSome?_eq_some hl
  have := List.mem_zipIdx_iff_getElem?.mp hm
  simp only at this hf
  split at hf
  · simp only [Option.some.injEq, Prod.mk.injEq] at hf
    obtain ⟨rfl, rfl⟩ := hf
    exact ⟨hs, this⟩
  · cases hf

/-- the kind of action an associativity prefers: LEFT the reduction (kind 1), RIGHT the shift (kind 0) -/
def preferred : Assoc → Option Nat
  | .left => some 1
  | .right => some 0
  | .none => none

/-- When an action takes precedence: its handle stands in an earlier level, or in the same level, whose associativity
    prefers its kind, and the other action is of the other kind. -/
theorem beats_true {a : Nat} {x y : Nat × Nat} (h : LALR.beats g a x y = some true) :
    ∃ i ax j ay, LALR.levelOf g (LALR.handleOf g a x.1 x.2) = some (i, ax) ∧
      LALR.levelOf g (LALR.handleOf g a y.1 y.2) = some (j, ay) ∧
      (i < j ∨ i = j ∧ preferred ax = some x.1 ∧ x.1 + y.1 = 1) := by
  unfold LALR.beats at h
  split at h
  · rename_i i ax j ay hx hy
    refine ⟨i, ax, j, ay, hx, hy, ?_⟩
    by_cases hij : i < j
    · exact .inl hij
    · by_cases hji : j < i
      · simp [hij, hji] at h
      · refine .inr ⟨by omega, ?_⟩
        simp only [hij, hji, if_false] at h
        cases ax <;> simp at h
        · simp [preferred, h]
        · simp [preferred, h]
  · cases h

/-- **"Takes precedence over" is asymmetric**: two actions never beat each other. -/
theorem C06_beats_asymm (a : Nat) (x y : Nat × Nat)
    (h1 : LALR.beats g a x y = some true) (h2 : LALR.beats g a y x = some true) : False := by
  obtain ⟨i, ax, j, ay, hx, hy, h1⟩ := beats_true g h1
  obtain ⟨j', ay', i', ax', hy', hx', h2⟩ := beats_true g h2
  rw [hx] at hx'; rw [hy] at hy'
  cases hx'; cases hy'
  rcases h1 with h1 | ⟨rfl, hpx, h1⟩
  · rcases h2 with h2 | ⟨h2, -⟩ <;> omega
  · rcases h2 with h2 | ⟨-, hpy, -⟩
    · omega
    · -- both handles stand in level `i`, so one associativity judges both actions: it cannot prefer both kinds
      obtain ⟨_, e1⟩ := levelOf_assoc g _ i ax hx
      obtain ⟨_, e2⟩ := levelOf_assoc g _ i ay hy
      obtain ⟨rfl, -⟩ := Prod.mk.inj (Option.some.inj (e1.symm.trans e2))
      have := Option.some.inj (hpx.symm.trans hpy)
      omega

/-- **The resolution of an entry does not depend on the order of its actions**: the same actions listed in any
    two orders are resolved to the same action, or in both orders to none (the rule emerge applies since c31491e;
    the dependency's own running-maximum search could fail for one order and succeed for another). -/
theorem C06_resolution_order_independent (a : Nat) {acts₁ acts₂ : List (Nat × Nat)} (h : acts₁.Perm acts₂) :
    LALR.resolveCell g a acts₁ = LALR.resolveCell g a acts₂ := by
  rw [resolveCell_eq_dominant, resolveCell_eq_dominant]
  exact Dominant.dominant_perm _ (fun x y h1 h2 => C06_beats_asymm g a x y (by simpa using h1) (by simpa using h2)) h

/-- A cell with a single action is never a conflict. -/
theorem C06_single_action (a : Nat) (x : Nat × Nat) : LALR.resolveCell g a [x] = some x := by
  simp [LALR.resolveCell]

/-- Non-vacuity: `e = e "+" e | e "*" e | NUM` with `@left "+"` before `@left "*"`: in the conflict
    cells the reduction by `e → e + e` wins against shifting `+` and `*`. -/
def demoG : LALR.G := ⟨3, 2, [(0, [.nt 0, .t 1, .nt 0]), (0, [.nt 0, .t 0, .nt 0]), (0, [.t 2]), (1, [.nt 0]), (2, [.nt 1])],
  [(.left, [.term 1]), (.left, [.term 0])]⟩
example : (LALR.build demoG 100).isSome = true := by decide +kernel
example : LALR.beats demoG 0 (1, 0) (0, 5) = some true := by decide +kernel
/-- an entry with a shift and two reductions whose handles share a level (the case the dependency settled in four of
    six visiting orders only): terminals `+`(0) and `z`(1), `@left "+"` before `@left "z"`; the shift on `+` beats both
    reductions by `a = z` and `b = z`, which cannot be compared with each other - in every order the shift is chosen -/
def threeWay : LALR.G := ⟨2, 3, [(0, [.nt 1, .t 0]), (0, [.nt 2, .t 0]), (0, [.t 1, .t 0]), (1, [.t 1]), (2, [.t 1]), (3, [.nt 0])],
  [(.left, [.term 0]), (.left, [.term 1])]⟩
example : LALR.resolveCell threeWay 0 [(0, 7), (1, 3), (1, 4)] = some (0, 7) ∧
    LALR.resolveCell threeWay 0 [(1, 3), (1, 4), (0, 7)] = some (0, 7) ∧
    LALR.resolveCell threeWay 0 [(1, 3), (1, 4)] = none := by decide +kernel

end Emerge.Props.C06
