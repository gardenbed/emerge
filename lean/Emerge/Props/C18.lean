import Emerge.Inst.Tables
import Emerge.Proofs.LREval
import Emerge.Inst.ParserDrv
/-
  C18 — parse callbacks fire in derivation order; errors abort; an evaluation callback receives the
  values of the body symbols left to right and its result becomes the value of the head.
-/
namespace Emerge.Props.C18
open Emerge Emerge.LR Emerge.Inst.Tables

/-- The embedded tables pass the decidable well-formedness check on which soundness rests. -/
theorem C18_tables_wf : raw.WF = true := raw_wf

/-- token callbacks / production callbacks of a run, in invocation order -/
def tokCalls (ev : List Event) : List Nat := ev.filterMap fun e => match e with | .tok i => some i | _ => none
def prodCalls (ev : List Event) : List Nat := ev.filterMap fun e => match e with | .prod p => some p | _ => none

/-- The token callback is invoked once per token, in source order. -/
theorem C18_tokens {w : List Nat} (hw : ∀ a ∈ w, a ≠ raw.eof) {fuel : Nat} {ev : List Event}
    (hacc : parse raw.tables w none none fuel = (ev, .accept)) :
    tokCalls ev = List.range w.length := by
  have h := (sound raw_wf hw hacc).2
  rw [toksOf_reverse, toksOf_eq_filterMap] at h
  exact List.reverse_inj.mp h

/-- The production callback is invoked once per reduction, and the invocations — read backwards —
    are a rightmost derivation of the token sequence from the start symbol of the documented
    grammar: i.e. they come in the order of a rightmost derivation in reverse. -/
theorem C18_order {w : List Nat} (hw : ∀ a ∈ w, a ≠ raw.eof) {fuel : Nat} {ev : List Event}
    (hacc : parse raw.tables w none none fuel = (ev, .accept)) :
    RDerivation Ref.Ebnf.prods (prodCalls ev).reverse [.nt Ref.Ebnf.nGrammar] (w.map Sym.t) := by
  have h := (sound raw_wf hw hacc).1
  rw [prodsOf_reverse, prodsOf_eq_filterMap] at h
  have e1 : raw.prods = Ref.Ebnf.prods := congrArg (·.prods) tableFile_eq
  have e2 : raw.start = Ref.Ebnf.nGrammar := congrArg (·.start) tableFile_eq
  rw [e1, e2] at h
  exact h

/-- An error returned by the `k`-th callback invocation stops the parse at that point and is what
    the caller gets: exactly the first `k+1` invocations of the unfailing run were made. -/
theorem C18_abort (w : List Nat) (k fuel : Nat) (errAt : Option Nat)
    (hk : k < (parse raw.tables w none errAt fuel).1.length) :
    parse raw.tables w (some k) errAt fuel =
      ((parse raw.tables w none errAt fuel).1.take (k + 1), .callbackError k) := by
  rw [parse_abort, if_pos hk]

/-- … and if the unfailing run makes no `k`-th invocation, nothing changes. -/
theorem C18_no_abort (w : List Nat) (k fuel : Nat) (errAt : Option Nat)
    (hk : ¬ k < (parse raw.tables w none errAt fuel).1.length) :
    parse raw.tables w (some k) errAt fuel = parse raw.tables w none errAt fuel := by
  rw [parse_abort, if_neg hk]

/-- Non-vacuity: `grammar x ; x = "s" ;` (token kinds 13 17 1 17 0 19 1) is accepted. -/
example : (parse raw.tables [13, 17, 1, 17, 0, 19, 1] none none 200).2 = .accept := by decide +kernel

/-! ### values: `ParseAndEvaluate` is the fold of the evaluation function over the parse tree -/

mutual
/-- the value of a parse tree under an evaluation function: a leaf is its token's lexeme at the
    token's position; an interior node is the function applied to the values of its children, left
    to right, positioned at the first child (no position for an empty body) -/
def foldNode {V : Type} (f : Nat → List (Value V) → V) (tokVal : Nat → V) : LR.Node → Value V
  | .leaf i => ⟨tokVal i, some i⟩
  | .inner p cs => ⟨f p (foldList f tokVal cs), ((foldList f tokVal cs).head?).bind (·.pos)⟩
def foldList {V : Type} (f : Nat → List (Value V) → V) (tokVal : Nat → V) : List LR.Node → List (Value V)
  | [] => []
  | c :: cs => foldNode f tokVal c :: foldList f tokVal cs
end

theorem foldList_eq_map {V : Type} (f : Nat → List (Value V) → V) (tokVal : Nat → V) (cs : List LR.Node) :
    foldList f tokVal cs = cs.map (foldNode f tokVal) := by
  induction cs with
  | nil => rfl
  | cons c cs ih => simp [foldList, ih]

theorem foldNode_inner {V : Type} (f : Nat → List (Value V) → V) (tokVal : Nat → V) (p : Nat) (cs : List LR.Node) :
    foldNode f tokVal (.inner p cs) =
      ⟨f p (cs.map (foldNode f tokVal)), ((cs.map (foldNode f tokVal)).head?).bind (·.pos)⟩ := by
  rw [foldNode, foldList_eq_map]

/-- **Values**: when no evaluation call fails, the value stack `ParseAndEvaluate` maintains is, at
    every moment, the image of the tree stack `ParseAndBuildAST` maintains under the fold of the
    evaluation function: every call receives exactly the values of the production's body symbols,
    left to right, its result becomes the value of the head, and the head takes the position of its
    first body symbol. -/
theorem C18_values {V : Type} (prods : List Prod) (f : Nat → List (Value V) → V) (tokVal : Nat → V) :
    ∀ (evs : List Event) (st st' : List LR.Node) (calls : Nat),
      astEvents prods evs st = some st' →
      evalEvents prods (fun _ p rhs => some (f p rhs)) tokVal evs (st.map (foldNode f tokVal)) calls
        = .ok (st'.map (foldNode f tokVal)) := by
  intro evs st st' calls h
  refine astEvents_induct (Q := fun evs st => ∀ calls,
    evalEvents prods (fun _ p rhs => some (f p rhs)) tokVal evs (st.map (foldNode f tokVal)) calls
      = .ok (st'.map (foldNode f tokVal))) (fun _ => rfl) (fun _ _ _ ih => ih) ?_ evs st h calls
  intro p A β es cs st hp hlen ih calls
  have hpop := popValues_append (cs.map (foldNode f tokVal)) (st.map (foldNode f tokVal))
  rw [List.length_map, hlen] at hpop
  simp only [evalEvents, hp, List.map_append, List.map_reverse, hpop]
  have := ih (calls + 1)
  rw [List.map_cons, foldNode_inner] at this
  exact this

/-- **An evaluation error stops the parse at that point**: if the `k`-th call of the evaluation
    function fails, the result is that error and no later call is made (the fold stops). -/
theorem C18_eval_error {V : Type} (prods : List Prod) (eval : Nat → Nat → List (Value V) → Option V) (tokVal : Nat → V)
    (p : Nat) (A : Nat) (β : List Sym) (es : List Event) (st : List (Value V)) (rhs st' : List (Value V)) (calls : Nat)
    (hp : prods[p]? = some (A, β)) (hv : popValues β.length st = some (rhs, st')) (hfail : eval calls p rhs = none) :
    evalEvents prods eval tokVal (.prod p :: es) st calls = .error (.evalError calls) := by
  simp [evalEvents, hp, hv, hfail]

/-- The driver the models follow: `Parse`, `ParseAndBuildAST`, `ParseAndEvaluate` and `nextToken` of the EBNF parser read,
    statement for statement, as expected (re-extracted from internal/ebnf/parser/parser.go on every run). -/
theorem C18_driver_source :
    Gen.ParserDrv.body_Parse = Ref.ParserDrv.body_Parse ∧ Gen.ParserDrv.body_ParseAndBuildAST = Ref.ParserDrv.body_ParseAndBuildAST ∧
    Gen.ParserDrv.body_ParseAndEvaluate = Ref.ParserDrv.body_ParseAndEvaluate ∧ Gen.ParserDrv.body_nextToken = Ref.ParserDrv.body_nextToken :=
  ⟨Inst.ParserDrv.body_Parse_eq, Inst.ParserDrv.body_ParseAndBuildAST_eq, Inst.ParserDrv.body_ParseAndEvaluate_eq,
   Inst.ParserDrv.body_nextToken_eq⟩

end Emerge.Props.C18
