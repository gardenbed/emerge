import Emerge.Proofs.EbnfSymTab
/-
  C12 — recorded precedence levels are exactly the directives, in order, with their handles.
-/
namespace Emerge.Props.C12
open Emerge Emerge.Ebnf

def assocOf : Nat → Option Assoc
  | 12 => some .left
  | 13 => some .right
  | 14 => some .none
  | _ => none

/-- A directive action (`directive → "@left"/"@right"/"@none" handles`) appends exactly one level —
    with the associativity written and the set of the handles collected — after all earlier levels;
    the order of levels is therefore the order of the directive reductions, i.e. source order
    (C18: reductions come in rightmost-derivation order, `decls → decls decl` left to right). -/
theorem C12_directive_appends (cfg : Cfg) (file : String) (names predefs : List (String × String)) (t t' : SymTab)
    (i : Nat) (a : Assoc) (ha : assocOf i = some a) (kw : PVal) (hs : List GHandle) (pos : Option Pos) (v : Val)
    (h : action cfg file names predefs t i [kw, ⟨.handles hs, pos⟩] = .ok (t', v)) :
    t'.levels = t.levels ++ [⟨a, dedupHandles hs⟩] ∧ v = .level ⟨a, dedupHandles hs⟩ := by
  unfold assocOf at ha
  split at ha <;> cases ha <;> cases h <;> exact ⟨rfl, rfl⟩

/-- No action other than a directive changes the recorded levels. -/
theorem C12_others_keep (cfg : Cfg) (file : String) (names predefs : List (String × String)) (t t' : SymTab)
    (i : Nat) (hi : i ≠ 12 ∧ i ≠ 13 ∧ i ≠ 14) (rhs : List PVal) (v : Val)
    (h : action cfg file names predefs t i rhs = .ok (t', v)) : t'.levels = t.levels := by
  rcases action_effect h with e | ⟨h12 | h13 | h14, _⟩
  · cases e with
    | unchanged => rfl
    | stringTerminal key text => rw [addStringTerminal_frame]
    | tokenTerminal a => rw [addTokenTerminal_frame]
    | define a d => rw [addDef_frame]
    | nonTerminal A => rw [addNonTerminal_frame]
    | closure s k => rw [closureAction_frame]
    | productions ps => rw [foldl_addProduction_frame]
    | error e => rfl
  · exact absurd h12 hi.1
  · exact absurd h13 hi.2.1
  · exact absurd h14 hi.2.2

/-- A rule (also one written inside `< >`) yields one production per alternative of its
    translated right-hand side, and each of them is one of the grammar's own productions. -/
theorem C12_rule_productions_in_grammar (cfg : Cfg) (file : String) (names predefs : List (String × String))
    (t t' : SymTab) (A : String) (s : Strings) (p0 p1 p2 : Option Pos) (eqv : Val) (v : Val)
    (h : action cfg file names predefs t 20 [⟨.nonterm A, p0⟩, ⟨eqv, p1⟩, ⟨.strings s, p2⟩] = .ok (t', v)) :
    v = .prods (s.map fun α => ⟨A, α⟩) ∧ ∀ p ∈ s.map (fun α => (⟨A, α⟩ : GProd)), p ∈ t'.prods := by
  cases h
  exact ⟨rfl, fun p hp => (mem_foldl_addProduction _ t p).mpr (Or.inr hp)⟩

/-- The handles of a directive are collected left to right: a terminal contributes itself, a rule
    handle contributes each of its productions. -/
theorem C12_handles_collect (cfg : Cfg) (file : String) (names predefs : List (String × String)) (t : SymTab)
    (hs : List GHandle) (a : String) (ps : List GProd) (p0 p1 : Option Pos) :
    action cfg file names predefs t 17 [⟨.term a, p0⟩] = .ok (t, .handles [.term a]) ∧
    action cfg file names predefs t 18 [⟨.prods ps, p0⟩] = .ok (t, .handles (ps.map .prod)) ∧
    action cfg file names predefs t 15 [⟨.handles hs, p0⟩, ⟨.term a, p1⟩] = .ok (t, .handles (hs ++ [.term a])) ∧
    action cfg file names predefs t 16 [⟨.handles hs, p0⟩, ⟨.prods ps, p1⟩] = .ok (t, .handles (hs ++ ps.map .prod)) :=
  ⟨rfl, rfl, rfl, rfl⟩

/-- `dedupHandles` keeps exactly the handles listed (as a set). -/
theorem mem_dedupHandles (hs : List GHandle) (h : GHandle) : h ∈ dedupHandles hs ↔ h ∈ hs := by
  simp only [dedupHandles, mem_foldl_addNew (fun x => x), List.not_mem_nil, false_or, exists_eq_right]

end Emerge.Props.C12
