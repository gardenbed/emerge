import Emerge.Lexgen
import Emerge.Inst.LexerTmpl
/-
  C08 — the emitted lexer encodes exactly the token automaton.

  Proved: regrouping the automaton's transitions by (from, to) — what `groupDFAStates` does — and
  reading the result as the nested `switch` the template emits loses nothing and adds nothing
  (`C08_switch`), for every deterministic transition list; and the accepting-state table read as a
  `switch` returns exactly the owner of each state when no state has two owners (`C08_finals`).
  That the emitted text is valid Go which type-checks with the standard library only, and that
  the printed character and string literals denote the intended values, is decided per emitted
  package by the Go front end (checks/c08.py) — there is no Go semantics in Lean here.
  The two table templates the rows are printed through are re-extracted from lexer.go.tmpl on every
  run and must read as modelled (`C08_template`): one `case <states>:` per group of accepting states
  returning that terminal with the pending lexeme, one `case <from>:` with one `case <symbols>: return
  <next>` per symbol group, `errorState` / the ERR token otherwise.
-/
namespace Emerge.Props.C08
open Emerge Emerge.Lexgen

theorem evalRows_cons (n : Nat) (rs : List Rune) (rest : List (Nat × List Rune)) (r : Rune) :
    evalRows ((n, rs) :: rest) r = if rs.contains r then some n else evalRows rest r := by
  simp only [evalRows, List.find?_cons]
  cases rs.contains r <;> simp

theorem evalSwitch_cons (f : Nat) (rows : List (Nat × List Rune)) (rest : Groups) (s : Nat) (r : Rune) :
    evalSwitch ((f, rows) :: rest) s r = if f = s then evalRows rows r else evalSwitch rest s r := by
  unfold evalSwitch
  rw [List.find?_cons]
  by_cases h : f = s
  · rw [if_pos h, beq_iff_eq.mpr h]
  · rw [if_neg h, beq_eq_false_iff_ne.mpr h]

/-- Listing `r0` under `n0` changes nothing for another symbol; for `r0` itself it changes nothing either if some
    row held it already (the first row that holds a symbol decides), and otherwise gives `n0`. -/
theorem evalRows_addRow (rows : List (Nat × List Rune)) (n0 : Nat) (r0 r : Rune) :
    (evalRows (addRow rows n0 r0) r = evalRows rows r ∧ (r = r0 → evalRows rows r ≠ none)) ∨
    (r = r0 ∧ evalRows (addRow rows n0 r0) r = some n0) := by
  induction rows with
  | nil =>
    by_cases h : r = r0
    · exact .inr ⟨h, by simp [addRow, evalRows_cons, h]⟩
    · exact .inl ⟨by simp [addRow, evalRows, h], fun e => absurd e h⟩
  | cons row rest ih =>
    obtain ⟨n, rs⟩ := row
    simp only [addRow]
    split
    next hn =>
      subst hn
      by_cases h : r = r0
      · exact .inr ⟨h, by simp [evalRows_cons, h]⟩
      · exact .inl ⟨by simp [evalRows_cons, h], fun e => absurd e h⟩
    next hn =>
      simp only [evalRows_cons]
      split
      · exact .inl ⟨rfl, nofun⟩
      · exact ih

/-- Adding a transition changes only the inner switch of its state, where it lists the symbol under the target. -/
theorem evalSwitch_addTrans (g : Groups) (s0 : Nat) (r0 : Rune) (n0 : Nat) :
    ∃ rows, (∀ r, evalSwitch g s0 r = evalRows rows r) ∧
      ∀ s r, evalSwitch (addTrans g s0 r0 n0) s r = if s0 = s then evalRows (addRow rows n0 r0) r else evalSwitch g s r := by
  induction g with
  | nil => exact ⟨[], fun _ => rfl, fun s r => by rw [addTrans, evalSwitch_cons]; rfl⟩
  | cons e rest ih =>
    obtain ⟨f, rows'⟩ := e
    rw [addTrans]
    split
    next hf =>
      subst hf
      refine ⟨rows', fun r => by rw [evalSwitch_cons, if_pos rfl], fun s r => ?_⟩
      rw [evalSwitch_cons, evalSwitch_cons]
      split <;> rfl
    next hf =>
      obtain ⟨rows, h1, h2⟩ := ih
      refine ⟨rows, fun r => by rw [evalSwitch_cons, if_neg hf, h1], fun s r => ?_⟩
      rw [evalSwitch_cons, evalSwitch_cons, h2]
      by_cases hs : f = s
      · rw [if_pos hs, if_pos hs, if_neg (hs ▸ Ne.symm hf)]
      · rw [if_neg hs, if_neg hs]

/-- `o` is a correct reading of the transition list at `(s, r)`: if a next state, then a listed one; and none
    only if none is listed. For a deterministic list there is one such reading. -/
def Reads (t : Trans) (s : Nat) (r : Rune) (o : Option Nat) : Prop :=
  (∀ n, o = some n → (s, r, n) ∈ t) ∧ (o = none → ∀ n, (s, r, n) ∉ t)

theorem Reads.unique {t : Trans} {s : Nat} {r : Rune} {o₁ o₂ : Option Nat} (hdet : Deterministic t)
    (h₁ : Reads t s r o₁) (h₂ : Reads t s r o₂) : o₁ = o₂ := by
  cases o₁ with
  | none =>
    cases o₂ with
    | none => rfl
    | some m => exact absurd (h₂.1 m rfl) (h₁.2 rfl m)
  | some n =>
    cases o₂ with
    | none => exact absurd (h₁.1 n rfl) (h₂.2 rfl n)
    | some m => rw [hdet s r n m (h₁.1 n rfl) (h₂.1 m rfl)]

/-- a reading stays correct when a transition is appended, unless it said none and the transition is one for `(s, r)` -/
theorem Reads.snoc {t : Trans} {s s0 : Nat} {r r0 : Rune} {o : Option Nat} (h : Reads t s r o) (n0 : Nat)
    (hne : o = none → ¬ (s = s0 ∧ r = r0)) : Reads (t ++ [(s0, r0, n0)]) s r o := by
  refine ⟨fun n hn => List.mem_append_left _ (h.1 n hn), fun ho n hm => ?_⟩
  rcases List.mem_append.mp hm with hm | hm
  · exact h.2 ho n hm
  · simp only [List.mem_singleton, Prod.mk.injEq] at hm
    exact hne ho ⟨hm.1, hm.2.1⟩

theorem next_reads (t : Trans) (s : Nat) (r : Rune) : Reads t s r (next t s r) := by
  refine ⟨fun n h => ?_, fun h n hm => ?_⟩
  · simp only [next, Option.map_eq_some_iff] at h
    obtain ⟨⟨a, b, c⟩, he, rfl⟩ := h
    have hp := List.find?_some he
    simp only [Bool.and_eq_true, beq_iff_eq] at hp
    obtain ⟨rfl, rfl⟩ := hp
    exact List.mem_of_find?_eq_some he
  · simp only [next, Option.map_eq_none_iff] at h
    simpa using List.find?_eq_none.mp h (s, r, n) hm

theorem group_reads (t : Trans) : ∀ (g : Groups) (done : Trans), (∀ s r, Reads done s r (evalSwitch g s r)) →
    ∀ s r, Reads (done ++ t) s r (evalSwitch (t.foldl (fun g e => addTrans g e.1 e.2.1 e.2.2) g) s r) := by
  induction t with
  | nil => intro g done h; simpa using h
  | cons e rest ih =>
    intro g done h
    obtain ⟨s0, r0, n0⟩ := e
    have step : ∀ s r, Reads (done ++ [(s0, r0, n0)]) s r (evalSwitch (addTrans g s0 r0 n0) s r) := by
      intro s r
      obtain ⟨rows, h1, h2⟩ := evalSwitch_addTrans g s0 r0 n0
      rw [h2]
      split
      next hs =>
        subst hs
        rcases evalRows_addRow rows n0 r0 r with ⟨he, hne⟩ | ⟨rfl, he⟩
        · rw [he, ← h1]
          rw [← h1] at hne
          exact (h s0 r).snoc n0 fun ho hsr => hne hsr.2 ho
        · rw [he]
          exact ⟨fun n hn => by cases hn; simp, nofun⟩
      next hs => exact (h s r).snoc n0 fun _ hsr => hs hsr.1.symm
    simpa using ih _ _ step

/-- Deterministic or not, the switch built from the regrouped transitions returns a listed transition wherever one is listed. -/
theorem switch_reads (t : Trans) (s : Nat) (r : Rune) : Reads t s r (evalSwitch (group t) s r) := by
  have := group_reads t [] [] (fun s r => ⟨nofun, fun _ _ => List.not_mem_nil⟩) s r
  rwa [List.nil_append] at this

/-- **The emitted transition function is the automaton's**: for every deterministic transition
    list, every state and every character (whether or not it occurs in the automaton),
    the nested switch built from the regrouped transitions returns exactly the automaton's next
    state — the same next state for every pair, nothing for any other. -/
theorem C08_switch (t : Trans) (hdet : Deterministic t) (s : Nat) (r : Rune) :
    evalSwitch (group t) s r = next t s r :=
  (switch_reads t s r).unique hdet (next_reads t s r)

/-- **The emitted accepting-state table is the terminal map**: if no state is listed for two
    terminals, the `switch` over the per-terminal state lists returns for a state exactly the
    terminal that lists it, and nothing for any other state. -/
theorem C08_finals (fs : List (String × List Nat)) (hdisj : ∀ a b s, a ∈ fs → b ∈ fs → s ∈ a.2 → s ∈ b.2 → a = b)
    (s : Nat) (term : String) :
    evalFinals fs s = some term ↔ ∃ states, (term, states) ∈ fs ∧ s ∈ states := by
  simp only [evalFinals, Option.map_eq_some_iff]
  constructor
  · rintro ⟨f, hf, rfl⟩
    exact ⟨f.2, List.mem_of_find?_eq_some hf, by simpa using List.find?_some hf⟩
  · rintro ⟨states, hm, hs⟩
    cases hfind : fs.find? (fun f => f.2.contains s) with
    | none => exact absurd hs (by simpa using List.find?_eq_none.mp hfind (term, states) hm)
    | some f =>
      have h1 := List.mem_of_find?_eq_some hfind
      have h2 : s ∈ f.2 := by simpa using List.find?_some hfind
      have := hdisj f (term, states) s h1 hm h2 hs
      exact ⟨f, rfl, by rw [this]⟩

theorem C08_finals_none (fs : List (String × List Nat)) (s : Nat) :
    evalFinals fs s = none ↔ ∀ f ∈ fs, s ∉ f.2 := by
  simp [evalFinals, List.find?_eq_none]

/-- Non-vacuity: a keyword/identifier automaton fragment. -/
example : evalSwitch (group [(0, 105, 1), (0, 97, 2), (1, 102, 3), (0, 98, 2)]) 0 98 = some 2 := by decide
example : evalSwitch (group [(0, 105, 1), (0, 97, 2), (1, 102, 3), (0, 98, 2)]) 1 98 = none := by decide
/-- decidable form of determinism -/
def detB (t : Trans) : Bool :=
  t.all fun a => t.all fun b => !(a.1 == b.1 && a.2.1 == b.2.1) || a.2.2 == b.2.2

theorem detB_sound (t : Trans) (h : detB t = true) : Deterministic t := by
  intro s r n m h1 h2
  simp only [detB, List.all_eq_true] at h
  have := h _ h1 _ h2
  simpa using this

example : Deterministic [(0, 105, 1), (0, 97, 2), (1, 102, 3), (0, 98, 2)] := detB_sound _ (by decide)

/-- The table templates of the emitted lexer read as `evalRows` / `evalSwitch` assume. -/
theorem C08_template :
    Gen.LexerTmpl.tmpl_evalDFA = Ref.LexerTmpl.tmpl_evalDFA ∧ Gen.LexerTmpl.tmpl_advanceDFA = Ref.LexerTmpl.tmpl_advanceDFA ∧
    Gen.LexerTmpl.const_errorState = "-1" :=
  ⟨Inst.LexerTmpl.tmpl_evalDFA_eq, Inst.LexerTmpl.tmpl_advanceDFA_eq, rfl⟩

end Emerge.Props.C08
