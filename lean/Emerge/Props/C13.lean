import Emerge.Props.C05
import Emerge.Proofs.Utf8
/-
  C13 — what emerge derives depends only on the token sequence, not on layout or padding.

  The EBNF lexer scans the source from memory with a reader of its own (repair 027b8ad; before that the
  dependency's two-half reader, kept away from its reload path by a buffer that held the whole source), so
  the model has no buffer: the source is one rune list and the theorems below are about the scanner model
  over the regenerated tables.
  The parser consumes only the kinds and lexemes of the tokens (`Emerge.LR.parse` takes the list
  of kinds), so layout can influence the result only through the token list.
-/
namespace Emerge.Props.C13
open Emerge Emerge.Scanner Emerge.Inst.Lexer Emerge.Props.C05

def isBlank (r : Rune) : Bool := r == 32 || r == 9 || r == 10 || r == 13

/-- What holds of "no transition" and, on the finite window of the tables, of the documented transitions holds of every
    transition of the scanner in the source. -/
theorem adv_window {P : Nat → Rune → Option Nat → Prop} (hnone : ∀ s r, P s r none)
    (hfin : ∀ s, s < 55 → ∀ r, r < 128 → P s r (Ref.Lexer.advance s r)) (s : Nat) (r : Rune) :
    P s r (genSpec.adv s r) := by
  show P s r (genAdvance s r)
  rw [advance_eq]
  by_cases hs : s < 55
  · by_cases hr : r < 128
    · exact hfin s hs r hr
    · rw [ref_none_of_rune s r (Nat.le_of_not_lt hr)]; exact hnone s r
  · rw [ref_none_of_state s r (Nat.le_of_not_lt hs)]; exact hnone s r

/-- The two blank states: 1 (space, tab; terminal WS) and 2 (line feed, carriage return; terminal EOL). Each loops on its
    own runes, which also lead there from the start state, and has no other transition … -/
theorem ref_blank_loop : ∀ s, s < 3 → ∀ x, x < 128 → 0 < s →
    (Ref.Lexer.advance s x = none ∨ (Ref.Lexer.advance s x = some s ∧ Ref.Lexer.advance 0 x = some s)) := by
  decide +kernel

/-- … and each accepts a skipped terminal. -/
theorem gen_blank_skipped : ∀ s, s < 3 → 0 < s → (genSpec.eval s).any (fun km => genSpec.skipped km.1) = true := by
  decide +kernel

theorem gen_blank_loop (s1 : Nat) (hlt : s1 < 3) (hpos : 0 < s1) :
    ∀ x s', genSpec.adv s1 x = some s' → s' = s1 ∧ genSpec.adv 0 x = some s1 := by
  intro x s' hx
  have := adv_window (P := fun s x o => s < 3 → 0 < s → o = none ∨ (o = some s ∧ Ref.Lexer.advance 0 x = some s))
    (fun _ _ _ _ => .inl rfl) (fun s _ x hx hlt hpos => ref_blank_loop s hlt x hx hpos) s1 x hlt hpos
  rcases this with h | ⟨h, h0⟩
  · rw [h] at hx; cases hx
  · rw [h] at hx; cases hx; exact ⟨rfl, (advance_eq 0 x).trans h0⟩

/-- Space, tab, line feed and carriage return are blank runes of the scanner in the source. -/
theorem blank_rune (r : Rune) (h : isBlank r = true) : ∃ s1, BlankRune genSpec r s1 := by
  have hstart : ∃ s1, s1 < 3 ∧ 0 < s1 ∧ genSpec.adv 0 r = some s1 := by
    simp only [isBlank, Bool.or_eq_true, beq_iff_eq] at h
    rcases h with ((rfl | rfl) | rfl) | rfl
    · exact ⟨1, by decide +kernel⟩
    · exact ⟨1, by decide +kernel⟩
    · exact ⟨2, by decide +kernel⟩
    · exact ⟨2, by decide +kernel⟩
  obtain ⟨s1, hlt, hpos, hstart⟩ := hstart
  obtain ⟨⟨k, m⟩, hev, hsk⟩ := (Option.any_eq_true _ _).mp (gen_blank_skipped s1 hlt hpos)
  exact ⟨s1, hstart, ⟨k, m, hev, hsk⟩, gen_blank_loop s1 hlt hpos, Nat.ne_of_gt hpos⟩

/-- tokens (with positions) and ending of a text scanned from position `p` -/
def tokensFrom (p : Pos) (rs : List Rune) : List Token × End :=
  ((seg genSpec p rs).1.filterMap (tokenOf genSpec), (seg genSpec p rs).2)

theorem scan_eq_tokensFrom (rs : List Rune) : scan genSpec rs = tokensFrom Pos.start rs := rfl

/-- **Leading padding.** Any run of spaces, tabs and line terminators in front of a text changes
    nothing except that scanning starts at the position after the run: same tokens, same lexemes,
    same ending, and every reported position moved by exactly the inserted text. -/
theorem C13_leading_blanks (ws : List Rune) (h : ∀ r ∈ ws, isBlank r = true) (p : Pos) (b : List Rune) :
    tokensFrom p (ws ++ b) = tokensFrom (advPosList p ws) b := by
  induction ws generalizing p with
  | nil => rfl
  | cons r ws ih =>
    obtain ⟨s1, hb⟩ := blank_rune r (h r (by simp))
    have := seg_leading_blank genSpec hb p (ws ++ b)
    simp only [tokensFrom, List.cons_append, advPosList_cons]
    rw [this.1, this.2]
    exact ih (fun r hr => h r (by simp [hr])) (advPos p r)

/-- **Positions move with the start and nothing else does.** -/
theorem C13_positions_shift (p p' : Pos) (rs : List Rune) :
    (seg genSpec p rs).1.map (fun g => (g.state, g.text)) = (seg genSpec p' rs).1.map (fun g => (g.state, g.text)) ∧
    (seg genSpec p rs).2.strip = (seg genSpec p' rs).2.strip :=
  seg_shift genSpec p p' rs

/-- **Compositionality at a token boundary**: what was scanned before a boundary is unaffected by
    what follows it, and what follows is scanned as if it stood alone at that position. -/
theorem C13_compose (p : Pos) (a b : List Rune) (segsA : List Seg)
    (hseg : seg genSpec p a = (segsA, .eof))
    (hb : Stuck genSpec.adv (lastState segsA) b) :
    seg genSpec p (a ++ b) = (segsA ++ (seg genSpec (advPosList p a) b).1, (seg genSpec (advPosList p a) b).2) :=
  seg_append genSpec gen_noReentry gen_eval0 p a b segsA hseg hb

/-- states in which a significant (non-skipped) token ends -/
def tokenState (q : Nat) : Bool :=
  match Ref.Lexer.eval q with
  | some (k, _) => !Ref.Lexer.skipped k
  | none => false

theorem ref_blank_dead : ∀ r, r < 128 → isBlank r = true → ∀ q, q < 55 → tokenState q = true →
    Ref.Lexer.advance q r = none := by
  decide +kernel

/-- **A blank always ends a token**: no state in which a significant token ends has
    a transition on space, tab or a line terminator. -/
theorem C13_blank_ends_token (q : Nat) (r : Rune) (hts : tokenState q = true) (hr : isBlank r = true) :
    genSpec.adv q r = none :=
  adv_window (P := fun q r o => tokenState q = true → isBlank r = true → o = none) (fun _ _ _ _ => rfl)
    (fun q hq r hr hts hb => ref_blank_dead r hr hb q hq hts) q r hts hr

/-- **Separators between tokens.** If `a` ends with a complete token (its last run is a significant token) then any non-empty run of blanks between `a` and `b` gives the tokens
    of `a` followed by the tokens of `b` scanned at the position after `a` and the blanks; with
    `b = []` this is: trailing blanks (a final newline) add nothing. -/
theorem C13_separator (p : Pos) (a ws b : List Rune) (segsA : List Seg) (hne : a ≠ [])
    (hseg : seg genSpec p a = (segsA, .eof))
    (hts : tokenState (lastState segsA) = true)
    (hws : ∀ r ∈ ws, isBlank r = true) (hwne : ws ≠ []) :
    tokensFrom p (a ++ (ws ++ b)) =
      (segsA.filterMap (tokenOf genSpec) ++ (tokensFrom (advPosList p (a ++ ws)) b).1,
       (tokensFrom (advPosList p (a ++ ws)) b).2) := by
  have hbnd : Stuck genSpec.adv (lastState segsA) (ws ++ b) := by
    cases ws with
    | nil => exact absurd rfl hwne
    | cons r rs => exact .inr ⟨r, rs ++ b, rfl, C13_blank_ends_token _ r hts (hws r (by simp))⟩
  have hc := C13_compose p a (ws ++ b) segsA hseg hbnd
  have hl := C13_leading_blanks ws hws (advPosList p a) b
  simp only [tokensFrom] at hl ⊢
  rw [hc]
  simp only [List.filterMap_append, advPosList_append]
  rw [(Prod.mk.inj hl).1, (Prod.mk.inj hl).2]

/-- Non-vacuity of `C13_separator`: `a = "ab"` is one IDENT run ending in state 40. -/
example : seg genSpec Pos.start [97, 98] = ([⟨40, [97, 98], Pos.start⟩], .eof) ∧
    tokenState (lastState [⟨40, [97, 98], Pos.start⟩]) = true := by decide +kernel

/-- **Bytes of a text**: the specification is read as UTF-8; for every text of Unicode scalar values, scanning the decoded
    bytes of its encoding is scanning the text - whatever its length (no byte-level boundary plays a role). -/
theorem C13_text_bytes (rs : List Rune) (h : ∀ r ∈ rs, Utf8.Scalar r) (fuel : Nat) (hf : rs.length ≤ fuel) :
    tokensFrom Pos.start (Utf8.decode fuel (Utf8.encode rs)).1 = tokensFrom Pos.start rs ∧
    (Utf8.decode fuel (Utf8.encode rs)).2 = .eof := by
  rw [Utf8.decode_encode rs h fuel hf]; exact ⟨rfl, rfl⟩

end Emerge.Props.C13
