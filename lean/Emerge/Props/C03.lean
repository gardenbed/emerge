import Emerge.Lexgen
/-
  C03 — combined scanner automaton: right winner, conflicts iff real; a literal denotes its own characters.

  What is proved is emerge's own decision logic (`winner`, `stringToDFA`).  That the dependency's
  `CombineDFA` returns, for every accepting state, exactly the definitions whose language contains
  the strings reaching it, is the contract under which these theorems speak about texts; it is
  validated per definition set by exploring the full product of reference automata (checks/c03.py).
-/
namespace Emerge.Props.C03
open Emerge Emerge.Lexgen

/-- A literal's automaton, started in state `s`, survives exactly the beginnings of what the literal has from
    position `s` on, and counts the characters it reads. -/
theorem strRun_eq_some (v : List Rune) : ∀ (w : List Rune) (s t : Nat),
    strRun v s w = some t ↔ t = s + w.length ∧ w <+: v.drop s := by
  intro w
  induction w with
  | nil => intro s t; simp [strRun, eq_comm]
  | cons c w ih =>
    intro s t
    by_cases hc : v[s]? = some c
    · have hdrop : v.drop s = c :: v.drop (s + 1) := by
        obtain ⟨ys, h⟩ := List.head?_eq_some_iff.mp (List.head?_drop ▸ hc)
        rw [← List.tail_drop, h]
        rfl
      simp only [strRun, strNext, if_pos hc, ih, hdrop, List.cons_prefix_cons, List.length_cons, true_and]
      rw [Nat.add_right_comm, Nat.add_assoc]
    · simp only [strRun, strNext, if_neg hc, reduceCtorEq, false_iff]
      rintro ⟨_, u, hu⟩
      rw [← List.head?_drop, ← hu] at hc
      exact hc rfl

/-- **A string literal denotes its own characters** (nothing more, nothing less). -/
theorem C03_literal (v w : List Rune) : strAccepts v w = true ↔ w = v := by
  simp only [strAccepts, beq_iff_eq, strRun_eq_some, List.drop_zero, Nat.zero_add]
  exact ⟨fun h => h.2.eq_of_length h.1.symm, fun h => h ▸ ⟨rfl, List.prefix_refl w⟩⟩

def literals (os : List Owner) : List Owner := os.filter (fun o => !o.isRegex)

/-- No definition matches: the state belongs to nobody. -/
theorem C03_none : winner [] = .none := rfl

/-- **The only definition matching wins.** -/
theorem C03_unique (o : Owner) : winner [o] = .term o.idx := rfl

theorem winner_cons_cons (o₁ o₂ : Owner) (rest : List Owner) :
    winner (o₁ :: o₂ :: rest) =
      match literals (o₁ :: o₂ :: rest) with
      | [s] => .term s.idx
      | _ => .conflict ((o₁ :: o₂ :: rest).map (·.idx)) := rfl

/-- **A literal wins over any number of patterns**: if exactly one of the matching definitions is a
    string literal, the state is attributed to it. -/
theorem C03_literal_wins (os : List Owner) (s : Owner) (h : literals os = [s]) : winner os = .term s.idx := by
  match os with
  | [] => cases h
  | [o] =>
    have hs : s ∈ literals [o] := h ▸ List.mem_singleton_self s
    rw [List.mem_singleton.mp (List.mem_filter.mp hs).1]
    rfl
  | o₁ :: o₂ :: rest => rw [winner_cons_cons, h]

theorem winner_conflict_iff (os : List Owner) (is : List Nat) :
    winner os = .conflict is ↔ 2 ≤ os.length ∧ (literals os).length ≠ 1 ∧ is = os.map (·.idx) := by
  match os with
  | [] => simp [winner]
  | [o] => simp [winner]
  | o₁ :: o₂ :: rest =>
    rw [winner_cons_cons]
    split
    next s h => simp [h]
    next h =>
      have : (literals (o₁ :: o₂ :: rest)).length ≠ 1 := fun hl =>
        have ⟨s, hs⟩ := List.length_eq_one_iff.mp hl
        h s hs
      simp [this, eq_comm]

/-- **Conflict iff real**: a conflict is reported exactly when at least two definitions match and
    the tie is not broken by exactly one literal.  (With distinct literal values — enforced when the
    specification is read, C07 — at most one literal matches a text, so this is "two patterns and no literal".) -/
theorem C03_conflict_iff (os : List Owner) :
    (∃ is, winner os = .conflict is) ↔ 2 ≤ os.length ∧ (literals os).length ≠ 1 := by
  simp only [winner_conflict_iff]
  exact ⟨fun ⟨_, h2, h1, _⟩ => ⟨h2, h1⟩, fun ⟨h2, h1⟩ => ⟨_, h2, h1, rfl⟩⟩

/-- … and the conflict names exactly the matching definitions. -/
theorem C03_conflict_names (os : List Owner) (is : List Nat) (h : winner os = .conflict is) : is = os.map (·.idx) :=
  ((winner_conflict_iff os is).mp h).2.2

/-- With pairwise distinct literal values at most one literal matches a given text. -/
theorem C03_one_literal (vals : List (List Rune)) (hd : vals.Nodup) (w : List Rune) :
    (vals.filter (fun v => strAccepts v w)).length ≤ 1 := by
  have : vals.filter (fun v => strAccepts v w) = vals.filter (· == w) :=
    List.filter_congr fun v _ => by rw [Bool.eq_iff_iff, C03_literal, beq_iff_eq, eq_comm]
  rw [this, ← List.count_eq_length_filter]
  exact List.nodup_iff_count.mp hd w

/-- Non-vacuity: keyword against identifier and number patterns. -/
example : winner [⟨2, false⟩, ⟨3, true⟩] = .term 2 := by decide
example : winner [⟨3, true⟩, ⟨4, true⟩] = .conflict [3, 4] := by decide
example : strAccepts [105, 102] [105, 102] = true ∧ strAccepts [105, 102] [105] = false := by decide

end Emerge.Props.C03
