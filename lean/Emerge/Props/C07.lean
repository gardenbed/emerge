import Emerge.Ebnf
import Emerge.Proofs.EbnfVerify
/-
  C07 — specification rejected iff ill-formed; every terminal gets exactly one definition.

  Decision logic of the final action (`grammar → name decls`) and of `SymbolTable.Verify`,
  `Definitions`, `CFG.Verify`, `PrecedenceLevels.Verify`, stated over the symbol table that the
  semantic actions have built (the link from the source text to the table is the model
  `Emerge.Ebnf.action`, tied to the code by the correspondence run).
-/
namespace Emerge.Props.C07
open Emerge Emerge.Ebnf

/-- the final action (`grammar → name decls`): the two rounds of checks, then the specification -/
theorem action_final (cfg : Cfg) (file : String) (names predefs : List (String × String)) (t : SymTab) (rhs : List PVal) :
    action cfg file names predefs t 0 rhs =
      if !(verify file t).isEmpty then .err (t.errs ++ verify file t)
      else if !(t.errs ++ sortStr (cfgVerify t) ++ precVerify t.levels).isEmpty then
        .err (t.errs ++ sortStr (cfgVerify t) ++ precVerify t.levels)
      else match (rhs[0]?).map fun x : PVal => x.val with
        | some (.str name) =>
          .ok (t, .spec ⟨name, definitions t, t.terminals.map (·.name), t.nonTerminals, t.prods, t.levels⟩)
        | _ => typeErr 0 := rfl

/-- The final action accepts exactly when no diagnostic of any of the four checkers is raised:
    symbol-table verification, pending `invalid predefined regex` errors, grammar verification,
    precedence verification. -/
theorem C07_accept_iff (cfg : Cfg) (file : String) (names predefs : List (String × String)) (t : SymTab)
    (name : String) (pos : Option Pos) (rest : List PVal) :
    (∃ r, action cfg file names predefs t 0 (⟨.str name, pos⟩ :: rest) = .ok r) ↔
      (verify file t = [] ∧ t.errs = [] ∧ cfgVerify t = [] ∧ precVerify t.levels = []) := by
  rw [action_final]
  simp only [Bool.not_eq_true', List.isEmpty_eq_false_iff, ne_eq, ite_not]
  by_cases hv : verify file t = []
  · by_cases he : t.errs ++ sortStr (cfgVerify t) ++ precVerify t.levels = []
    · rw [if_pos hv, if_pos he]
      simp only [List.append_eq_nil_iff, sortStr_nil_iff] at he
      exact ⟨fun _ => ⟨hv, he.1.1, he.1.2, he.2⟩, fun _ => ⟨_, rfl⟩⟩
    · rw [if_pos hv, if_neg he]
      refine ⟨fun ⟨_, h⟩ => (nomatch h), fun ⟨_, h1, h2, h3⟩ => absurd ?_ he⟩
      rw [h1, h2, h3]; rfl
  · rw [if_neg hv]
    exact ⟨fun ⟨_, h⟩ => (nomatch h), fun h => absurd h.1 hv⟩

/-- When rejected, the diagnostics are exactly those of the checkers — nothing else is reported; the grammar's
    diagnostics come ordered by their text (the repair 26371be: the dependency visits its sets in no particular order). -/
theorem C07_diagnostics (cfg : Cfg) (file : String) (names predefs : List (String × String)) (t : SymTab)
    (rhs : List PVal) (ds : List String)
    (h : action cfg file names predefs t 0 rhs = .err ds) :
    ds = t.errs ++ verify file t ∨ ds = t.errs ++ sortStr (cfgVerify t) ++ precVerify t.levels := by
  rw [action_final] at h
  split at h
  · exact .inl (Outcome.err.inj h).symm
  · split at h
    · exact .inr (Outcome.err.inj h).symm
    · split at h <;> cases h

/-- `verify` succeeds only if `start` has a production. -/
theorem C07_start (file : String) (t : SymTab) (h : verify file t = []) :
    t.prods.any (·.head == "start") = true := by
  simp only [verify, List.append_eq_nil_iff] at h
  exact (ensureStart_nil_iff t).mp h.2

/-- The definition list handed on consists exactly of the single definitions of the terminals:
    nothing is lost and nothing is invented by the sorting. -/
theorem C07_definitions_mem (t : SymTab) (d : TermDef) :
    d ∈ definitions t ↔ ∃ e ∈ t.terminals, e.defs = [d] := by
  simp only [(definitions_perm t).mem_iff, singleDefs, List.mem_filterMap, single_eq_some]

/-- A string literal used in a rule defines itself: its definition is the literal with the escapes
    resolved, and it is a string (not pattern) definition without a declaration position. -/
theorem C07_literal_defines_itself (t : SymTab) (key text : String)
    (hnew : t.terminals.any (·.name == key) = false) :
    (addStringTerminal t key text).terminals = t.terminals ++ [⟨key, [⟨key, unescapeString text, false, none⟩]⟩] := by
  simp only [addStringTerminal, hnew, Bool.false_eq_true, if_false]

/-- Non-vacuity: a table with one defined terminal, one rule for `start`, no levels is accepted. -/
example :
    let t : SymTab := { terminals := [⟨"a", [⟨"a", "a", false, none⟩]⟩], nonTerminals := ["start"],
                        prods := [⟨"start", [.t "a"]⟩] }
    (verify "f" t = [] ∧ t.errs = [] ∧ cfgVerify t = [] ∧ precVerify t.levels = []) := by decide

/-- **One entry per terminal name** is kept by every semantic action, so it holds for the table the final action sees. -/
theorem C07_one_entry_per_terminal {t t' : SymTab} (h : TermsNodup t) (cfg : Cfg) (file : String) (names predefs : List (String × String))
    (i : Nat) (rhs : List PVal) (v : Val) (ha : action cfg file names predefs t i rhs = .ok (t', v)) : TermsNodup t' :=
  h.action cfg file names predefs i rhs v ha

theorem C07_empty_table : TermsNodup ({} : SymTab) := List.nodup_nil

/-- **Accepted iff well-formed**: the final action returns a specification exactly when every terminal of the table has
    exactly one definition, the values of the terminals are pairwise distinct, no unknown predefined name was recorded,
    `start` and every non-terminal have a production and every symbol is declared, and no handle is in two levels. -/
theorem C07_accept_iff_wellformed (cfg : Cfg) (file : String) (names predefs : List (String × String)) {t : SymTab}
    (h : TermsNodup t) (name : String) (pos : Option Pos) (rest : List PVal) :
    (∃ r, action cfg file names predefs t 0 (⟨.str name, pos⟩ :: rest) = .ok r) ↔ WellFormed t :=
  (C07_accept_iff cfg file names predefs t name pos rest).trans (checkers_nil_iff file h)

/-- **Every diagnostic names a defect that is present** (and the diagnostics are nothing but the checkers' lines). -/
theorem C07_diagnostics_sound (cfg : Cfg) (file : String) (names predefs : List (String × String)) {t : SymTab}
    (h : TermsNodup t) (rhs : List PVal) (ds : List String)
    (ha : action cfg file names predefs t 0 rhs = .err ds) : ∀ m ∈ ds, Defect file t m := by
  intro m hm
  apply Defect.of_checker file h
  rcases C07_diagnostics cfg file names predefs t rhs ds ha with hd | hd
  · rw [hd, List.mem_append] at hm
    exact hm.imp_right .inl
  · rw [hd, List.mem_append, List.mem_append, (sortStr_perm _).mem_iff] at hm
    rcases hm with (h1 | h2) | h3
    · exact .inl h1
    · exact .inr (.inr (.inl h2))
    · exact .inr (.inr (.inr h3))

/-- **Every terminal gets exactly one definition**: for a well-formed table the definition list handed on has one entry
    per terminal of the table, each terminal's single definition is in it, and nothing else is. -/
theorem C07_one_definition_each {t : SymTab} (h : WellFormed t) :
    (definitions t).length = t.terminals.length ∧
    (∀ e ∈ t.terminals, ∃ d, e.defs = [d] ∧ d ∈ definitions t) ∧
    (∀ d ∈ definitions t, ∃ e ∈ t.terminals, e.defs = [d]) := by
  have one : ∀ e ∈ t.terminals, ∃ d, single e = some d := fun e he =>
    (List.length_eq_one_iff.mp (h.defined e he)).imp fun _ => single_eq_some.mpr
  refine ⟨?_, fun e he => ?_, fun d hd => (C07_definitions_mem t d).mp hd⟩
  · rw [(definitions_perm t).length_eq, singleDefs, List.filterMap_length_eq_length]
    exact fun e he => Option.isSome_iff_exists.mpr (one e he)
  · obtain ⟨d, hd⟩ := one e he
    exact ⟨d, single_eq_some.mp hd, (C07_definitions_mem t d).mpr ⟨e, he, single_eq_some.mp hd⟩⟩

/-- An unknown predefined name is recorded as an error (and defines nothing); a known one defines the token. -/
theorem C07_predefined (cfg : Cfg) (file : String) (names predefs : List (String × String)) (t : SymTab)
    (tok value : String) (p0 p1 p2 : Option Pos) (x : Val) :
    action cfg file names predefs t 11 [⟨.str tok, p0⟩, ⟨x, p1⟩, ⟨.str value, p2⟩] =
      match predefs.find? (·.1 == value) with
      | none => .ok ({ t with errs := t.errs ++ ["invalid predefined regex: " ++ value] }, .nil)
      | some (_, re) => .ok (addRegexTokenDef t tok re p0, .nil) := rfl

/-- Non-vacuity: a table with a doubly defined token, a token without definition and two terminals of equal value is not
    well-formed, and the checkers say so; a small complete table is well-formed. -/
def badTab : SymTab :=
  { terminals := [⟨"A", [⟨"A", "x", false, none⟩, ⟨"A", "y", false, none⟩]⟩, ⟨"B", []⟩, ⟨"C", [⟨"C", "z", false, none⟩]⟩, ⟨"z", [⟨"z", "z", false, none⟩]⟩],
    nonTerminals := ["start"], prods := [⟨"start", [.t "A", .t "B", .t "C", .t "z"]⟩] }
def goodTab : SymTab :=
  { terminals := [⟨"A", [⟨"A", "x", false, none⟩]⟩, ⟨"z", [⟨"z", "z", false, none⟩]⟩],
    nonTerminals := ["start"], prods := [⟨"start", [.t "A", .t "z"]⟩] }
example : (verify "f" badTab).length = 3 ∧ verify "f" goodTab = [] ∧ cfgVerify goodTab = [] ∧ precVerify goodTab.levels = [] := by decide
example : TermsNodup badTab ∧ TermsNodup goodTab := by constructor <;> (unfold TermsNodup; decide)

end Emerge.Props.C07
